import Vanguard.Lemmas.TargetHeaders
/-! The timeout on its way from the client's header to the backend's (C12). -/
namespace Vanguard

def ServerForm.timeoutHeader (p : ServerForm) : Option Bytes :=
  match p with
  | .grpc | .grpcWeb => some (s "Grpc-Timeout")
  | .connectStream | .connectUnary => some (s "Connect-Timeout-Ms")
  | .rest => none

def ServerForm.timeoutText (p : ServerForm) (d : Int) : Bytes :=
  match p with
  | .grpc | .grpcWeb => grpcEncodeTimeout d
  | _ => connectEncodeTimeout d

/-- The client's timeout as `extractProtocolRequestHeaders` of its protocol reads it off the request headers. -/
def ClientForm.timeoutOf (c : ClientForm) (h : Hdr) : Extracted :=
  match c with
  | .grpc | .grpcWeb => grpcExtractTimeout (h.get (s "Grpc-Timeout"))
  | .connectStream | .connectPost | .connectGet => connectExtractTimeout (h.get (s "Connect-Timeout-Ms"))
  | .rest => none

theorem extract_timeout (c : ClientForm) (q : Query) (h : Hdr) (rm : ReqMeta) (h' : Hdr)
    (hex : c.extractRequestHeaders q h = some (rm, h')) : c.timeoutOf h = some rm.timeout := by
  cases c
  case grpc =>
    -- gRPC deletes `Te` before it reads the timeout
    have hte : canonKey (s "Te") ≠ canonKey (s "Grpc-Timeout") := by decide +kernel
    rw [ClientForm.timeoutOf, ← (grpcExtract_headers hex).2, Hdr.get, Hdr.get, Hdr.values_del_ne _ _ _ hte]
  case grpcWeb => exact (grpcExtract_headers hex).2
  case rest => cases hex
  all_goals
    simp only [ClientForm.extractRequestHeaders] at hex
    split at hex
    · cases hex
    · rename_i ht; cases hex; exact ht

/-- The request metadata of a validated operation is what the client form's extraction gave. -/
theorem validate_timeout (w : World) (t : TConf) (r : Req) (o : Op) (hv : validate w t r = .ok o) :
    o.cform.timeoutOf r.headers = some o.reqMeta.timeout := by
  obtain ⟨h, hex, -⟩ := (validate_ok hv).extract
  exact extract_timeout _ _ _ _ _ hex

end Vanguard
