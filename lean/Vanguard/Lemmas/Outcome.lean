import Vanguard.Lemmas.ReadReach
import Vanguard.Lemmas.WriteReach
/-!
  "Exactly one outcome" (C03) as an invariant of the whole response path.

  `Sink.endMarks` counts the terminal dispositions a client can see in what it received: end frames
  and error bodies in the body, a gRPC status in the headers, a gRPC status in the trailers.
  `Good st` says: the end flag of the response writer is consistent with that count (nothing that
  looks like an end before `endWritten`, at most one afterwards) and a written end latches the
  writer's error flag and implies that the head was flushed.
  `Ev a b` ("`a` evolves to `b`") says: `Good` is kept, and once the end was written nothing that the
  client can observe (`SameWire`) changes any more.
  Every function of the model that touches the request state is shown to be an `Ev` step.
-/
namespace Vanguard

def Item.isEnd : Item → Bool
  | .raw _ => false
  | _ => true

def Sink.endMarks (k : Sink) : Nat :=
  k.items.countP Item.isEnd + (if k.hdrEndSet then 1 else 0) + (if k.trailerEndSet then 1 else 0)

/-- What the client can observe of a response, except flush bookkeeping. -/
structure SameWire (a b : Sink) : Prop where
  status : b.status = a.status
  snap : b.snap = a.snap
  hdr : b.hdr = a.hdr
  items : b.items = a.items
  hdrEnd : b.hdrEnd = a.hdrEnd
  hdrEndSet : b.hdrEndSet = a.hdrEndSet
  trailerEnd : b.trailerEnd = a.trailerEnd
  trailerEndSet : b.trailerEndSet = a.trailerEndSet

theorem SameWire.refl (a : Sink) : SameWire a a := ⟨rfl, rfl, rfl, rfl, rfl, rfl, rfl, rfl⟩

theorem SameWire.trans {a b c : Sink} (h1 : SameWire a b) (h2 : SameWire b c) : SameWire a c :=
  ⟨h2.status.trans h1.status, h2.snap.trans h1.snap, h2.hdr.trans h1.hdr, h2.items.trans h1.items,
   h2.hdrEnd.trans h1.hdrEnd, h2.hdrEndSet.trans h1.hdrEndSet, h2.trailerEnd.trans h1.trailerEnd,
   h2.trailerEndSet.trans h1.trailerEndSet⟩

def Sink.bodyRaw (k : Sink) : Prop := ∀ i ∈ k.items, i.isEnd = false

/-- An end item, if there is one, is the last item of the body: no message data follows it. -/
def Sink.endLast (k : Sink) : Prop := ∀ i ∈ k.items.dropLast, i.isEnd = false

theorem Sink.bodyRaw_of_marks {k : Sink} (h : k.endMarks = 0) : k.bodyRaw := by
  intro i hi
  have h0 : k.items.countP Item.isEnd = 0 := by unfold Sink.endMarks at h; omega
  have := (List.countP_eq_zero.mp h0) i hi
  simpa using this

theorem Sink.endLast_of_bodyRaw {k : Sink} (h : k.bodyRaw) : k.endLast :=
  fun i hi => h i (List.dropLast_subset _ hi)

theorem Sink.endLast_of_marks {k : Sink} (h : k.endMarks = 0) : k.endLast :=
  Sink.endLast_of_bodyRaw (Sink.bodyRaw_of_marks h)

structure Good (st : St) : Prop where
  ended : st.rw.endWritten = true → st.rw.err = true ∧ st.rw.headersFlushed = true
  opened : st.rw.endWritten = false → st.sink.endMarks = 0
  atMost : st.sink.endMarks ≤ 1
  last : st.sink.endLast

def Ev (a b : St) : Prop :=
  Good a → Good b ∧ (a.rw.endWritten = true → SameWire a.sink b.sink ∧ b.rw.endWritten = true)

theorem Ev.refl (a : St) : Ev a a := fun h => ⟨h, fun he => ⟨SameWire.refl _, he⟩⟩

theorem Ev.trans {a b c : St} (h1 : Ev a b) (h2 : Ev b c) : Ev a c := by
  intro ha
  obtain ⟨hb, sb⟩ := h1 ha
  obtain ⟨hc, sc⟩ := h2 hb
  refine ⟨hc, fun he => ?_⟩
  obtain ⟨w1, e1⟩ := sb he
  obtain ⟨w2, e2⟩ := sc e1
  exact ⟨w1.trans w2, e2⟩

theorem Ev.of_same {a b : St} (he : b.rw.endWritten = a.rw.endWritten) (herr : a.rw.err = true → b.rw.err = true)
    (hf : b.rw.headersFlushed = a.rw.headersFlushed) (hw : SameWire a.sink b.sink) : Ev a b := by
  intro ha
  have hm : b.sink.endMarks = a.sink.endMarks := by
    unfold Sink.endMarks; rw [hw.items, hw.hdrEndSet, hw.trailerEndSet]
  refine ⟨⟨fun h => ?_, fun h => ?_, ?_, ?_⟩, fun h => ⟨hw, by rw [he]; exact h⟩⟩
  · rw [he] at h; rw [hf]; exact ⟨herr (ha.ended h).1, (ha.ended h).2⟩
  · rw [he] at h; rw [hm]; exact ha.opened h
  · rw [hm]; exact ha.atMost
  · unfold Sink.endLast; rw [hw.items]; exact ha.last

theorem Ev.of_open {a b : St} (hopen : a.rw.endWritten = false) (he : b.rw.endWritten = false)
    (hm : b.sink.endMarks = a.sink.endMarks) : Ev a b := by
  intro ha
  refine ⟨⟨fun h => ?_, fun _ => ?_, ?_, ?_⟩, fun h => ?_⟩
  · rw [he] at h; cases h
  · rw [hm]; exact ha.opened hopen
  · rw [hm]; exact ha.atMost
  · exact Sink.endLast_of_marks (by rw [hm]; exact ha.opened hopen)
  · rw [hopen] at h; cases h

theorem Neutral.ev {a b : St} (h : Neutral a b) : Ev a b := by
  rcases Bool.eq_false_or_eq_true a.rw.endWritten with he | he
  · refine Ev.of_same h.ended (fun e => h.err.trans e) h.flushed ?_
    rw [h.sink, h.hdr he]
    exact SameWire.refl _
  · exact Ev.of_open he (h.ended.trans he) (by rw [h.sink]; rfl)

theorem Good.not_flushed_open {st : St} (h : Good st) (hf : st.rw.headersFlushed = false) : st.rw.endWritten = false := by
  cases he : st.rw.endWritten with
  | false => rfl
  | true => have := (h.ended he).2; rw [hf] at this; cases this

theorem Good.live_open {st : St} (h : Good st) (hf : st.rw.err = false) : st.rw.endWritten = false := by
  cases he : st.rw.endWritten with
  | false => rfl
  | true => have := (h.ended he).1; rw [hf] at this; cases this

theorem endMarks_write (k : Sink) (b : Bytes) : (k.write b).endMarks = k.endMarks := by
  unfold Sink.write Sink.endMarks
  by_cases hs : k.status.isNone = true <;> by_cases hb : b.isEmpty = true <;>
    simp [hs, hb, List.countP_append, Item.isEnd]

theorem endMarks_writeHeader (k : Sink) (c : Nat) : (k.writeHeader c).endMarks = k.endMarks := by
  unfold Sink.writeHeader Sink.endMarks
  split <;> rfl

theorem endMarks_flush (k : Sink) : k.flush.endMarks = k.endMarks := rfl

theorem endMarks_hdr (k : Sink) (h : Hdr) : ({ k with hdr := h } : Sink).endMarks = k.endMarks := rfl

theorem endMarks_writeItem_end (k : Sink) (i : Item) (hi : i.isEnd = true) : (k.writeItem i).endMarks = k.endMarks + 1 := by
  unfold Sink.writeItem Sink.endMarks
  by_cases hs : k.status.isNone = true <;> simp [hs, List.countP_append, hi] <;> omega

theorem sameWire_flush (k : Sink) : SameWire k k.flush := ⟨rfl, rfl, rfl, rfl, rfl, rfl, rfl, rfl⟩

theorem endMarks_writeEndToHeaders (k : Sink) (e : RespEnd) :
    (writeEndToHeaders k e).endMarks = k.items.countP Item.isEnd + 1 + (if k.trailerEndSet then 1 else 0) := by
  unfold writeEndToHeaders Sink.endMarks; simp

theorem marks_zero_fields {k : Sink} (hk : k.endMarks = 0) :
    k.items.countP Item.isEnd = 0 ∧ k.hdrEndSet = false ∧ k.trailerEndSet = false := by
  unfold Sink.endMarks at hk
  -- a flag that is set counts one
  cases h1 : k.hdrEndSet <;> cases h2 : k.trailerEndSet <;> rw [h1, h2] at hk
  case false.false => exact ⟨hk, rfl, rfl⟩
  all_goals cases hk

theorem addResponseHeaders_marks (c : ClientForm) (rm : RespMeta) (k : Sink) (hk : k.endMarks = 0) :
    (addResponseHeaders c rm k).2.endMarks =
      (if (c == .grpc || c == .grpcWeb) && rm.end.isSome then 1 else 0) := by
  obtain ⟨h1, h2, h3⟩ := marks_zero_fields hk
  rw [addResponseHeaders_snd]
  simp only [Sink.endMarks, ClientForm.headEnd, h1, h2, h3]
  cases (c == .grpc || c == .grpcWeb) <;> cases rm.end <;> rfl

theorem addResponseHeaders_items (c : ClientForm) (rm : RespMeta) (k : Sink) :
    (addResponseHeaders c rm k).2.items = k.items ∧ (addResponseHeaders c rm k).2.trailerEndSet = k.trailerEndSet :=
  ⟨(addResponseHeaders_frame c rm k).1, (addResponseHeaders_frame c rm k).2.2.2.1⟩

/-- The item that ends the body, for the client forms whose end travels in the body: the trailer frame of gRPC-Web
    (unless the end is in the head), the end-of-stream frame of Connect streaming, the error body of unary Connect
    (only together with the head).  A gRPC client has none: its late end goes into the HTTP trailers. -/
def ClientForm.bodyEnd (c : ClientForm) (e : RespEnd) (inHdr : Bool) : Option Item :=
  match c, inHdr with
  | .grpcWeb, false => some (.endFrame 0x80 e)
  | .connectStream, _ => some (.endFrame 2 e)
  | .connectPost, true | .connectGet, true => e.err.map .errBody
  | _, _ => none

theorem ClientForm.bodyEnd_isEnd {c : ClientForm} {e : RespEnd} {inHdr : Bool} {i : Item}
    (h : c.bodyEnd e inHdr = some i) : i.isEnd = true := by
  unfold ClientForm.bodyEnd at h
  split at h
  case h_3 | h_4 => obtain ⟨x, -, rfl⟩ := Option.map_eq_some_iff.mp h; rfl
  all_goals first | (cases h; rfl) | cases h

theorem encodeEnd_eq (c : ClientForm) (e : RespEnd) (inHdr : Bool) (k : Sink) :
    encodeEnd c e inHdr k = (match c.bodyEnd e inHdr with | some i => k.writeItem i | none => k) ∨
    (c = .grpc ∧ inHdr = false ∧
      encodeEnd c e inHdr k = { k with hdr := httpMergeTrailers k.hdr e.trailers, trailerEnd := e.err, trailerEndSet := true }) := by
  unfold encodeEnd ClientForm.bodyEnd
  cases c <;> cases inHdr
  case grpc.false => exact .inr ⟨rfl, rfl, rfl⟩
  case connectPost.true | connectGet.true => cases e.err <;> exact .inl rfl
  case connectPost.false | connectGet.false => cases e.err <;> exact .inl rfl
  all_goals exact .inl rfl

theorem encodeEnd_marks (c : ClientForm) (e : RespEnd) (inHdr : Bool) (k : Sink) :
    (encodeEnd c e inHdr k).endMarks ≤ k.endMarks + 1 ∧
    (((c == .grpc || c == .grpcWeb) && inHdr) = true → (encodeEnd c e inHdr k).endMarks = k.endMarks) := by
  rcases encodeEnd_eq c e inHdr k with h | ⟨rfl, rfl, h⟩ <;> rw [h]
  · -- with the status in the head there is no end item
    refine ⟨?_, fun hg => by rw [show c.bodyEnd e inHdr = none by cases c <;> cases inHdr <;> first | rfl | cases hg]⟩
    cases hb : c.bodyEnd e inHdr with
    | none => exact Nat.le_succ _
    | some i => exact Nat.le_of_eq (endMarks_writeItem_end k i (ClientForm.bodyEnd_isEnd hb))
  · refine ⟨?_, nofun⟩
    unfold Sink.endMarks
    cases k.trailerEndSet <;> simp

theorem bodyRaw_write {k : Sink} (h : k.bodyRaw) (b : Bytes) : (k.write b).bodyRaw := by
  unfold Sink.write Sink.bodyRaw
  by_cases hs : k.status.isNone = true <;> by_cases hb : b.isEmpty = true <;> simp only [hs, hb, if_true]
  all_goals first
    | exact h
    | (intro i hi
       rcases List.mem_append.mp hi with hi | hi
       · exact h i hi
       · simp only [List.mem_singleton] at hi; rw [hi]; rfl)

theorem bodyRaw_writeHeader {k : Sink} (h : k.bodyRaw) (c : Nat) : (k.writeHeader c).bodyRaw := by
  unfold Sink.writeHeader Sink.bodyRaw
  split <;> exact h

theorem bodyRaw_of_items {k k' : Sink} (h : k.bodyRaw) (hi : k'.items = k.items) : k'.bodyRaw := by
  unfold Sink.bodyRaw; rw [hi]; exact h

theorem endLast_writeItem {k : Sink} (h : k.bodyRaw) (i : Item) : (k.writeItem i).endLast := by
  unfold Sink.writeItem Sink.endLast
  by_cases hs : k.status.isNone = true <;> simp only [hs, if_true, if_false, Bool.false_eq_true, List.dropLast_concat] <;> exact h

theorem encodeEnd_endLast (c : ClientForm) (e : RespEnd) (inHdr : Bool) {k : Sink} (h : k.bodyRaw) :
    (encodeEnd c e inHdr k).endLast := by
  rcases encodeEnd_eq c e inHdr k with he | ⟨_, _, he⟩ <;> rw [he]
  · cases c.bodyEnd e inHdr with
    | none => exact Sink.endLast_of_bodyRaw h
    | some i => exact endLast_writeItem h i
  · exact Sink.endLast_of_bodyRaw h

theorem endMarks_bufWrite (k : Sink) (buf : Option Bytes) (c : Bool) :
    (match buf with
      | some b => if c then k else k.write b
      | none => k).endMarks = k.endMarks := by
  cases buf with
  | none => rfl
  | some b => cases c <;> simp [endMarks_write]

theorem headSink_cases (w : World) (st : St) :
    ∃ code, headSink w st = (addResponseHeaders st.op.cform (clientMeta w st) st.sink).2.writeHeader code ∨
      ∃ b, headSink w st = ((addResponseHeaders st.op.cform (clientMeta w st) st.sink).2.writeHeader code).write b := by
  refine ⟨(addResponseHeaders st.op.cform (clientMeta w st) st.sink).1.getD 0, ?_⟩
  unfold headSink
  cases st.rw.buf with
  | none => exact .inl rfl
  | some b =>
    simp only
    split
    · exact .inl rfl
    · exact .inr ⟨b, rfl⟩

theorem headSink_marks (w : World) (st : St) (hm0 : st.sink.endMarks = 0) :
    (headSink w st).endMarks =
      if (st.op.cform == .grpc || st.op.cform == .grpcWeb) && (st.rw.respMeta.getD {}).end.isSome then 1 else 0 := by
  obtain ⟨code, h | ⟨b, h⟩⟩ := headSink_cases w st <;> rw [h]
  · rw [endMarks_writeHeader, addResponseHeaders_marks _ _ _ hm0]; rfl
  · rw [endMarks_write, endMarks_writeHeader, addResponseHeaders_marks _ _ _ hm0]; rfl

theorem headSink_bodyRaw (w : World) (st : St) (hm0 : st.sink.endMarks = 0) : (headSink w st).bodyRaw := by
  have h1 := bodyRaw_of_items (Sink.bodyRaw_of_marks hm0)
    (addResponseHeaders_items st.op.cform (clientMeta w st) st.sink).1
  obtain ⟨code, h | ⟨b, h⟩⟩ := headSink_cases w st <;> rw [h]
  · exact bodyRaw_writeHeader h1 _
  · exact bodyRaw_write (bodyRaw_writeHeader h1 _) _

/-- The end written together with a head (`k`: the head, which for a gRPC or gRPC-Web client carries the status already)
    is the one end of the response, and nothing follows it. -/
theorem encodeEnd_head_marks (c : ClientForm) (e : RespEnd) {k : Sink}
    (hm : k.endMarks = if (c == .grpc || c == .grpcWeb) = true then 1 else 0) (hraw : k.bodyRaw) :
    (encodeEnd c e true k).endMarks ≤ 1 ∧ (encodeEnd c e true k).endLast := by
  refine ⟨?_, encodeEnd_endLast _ _ _ hraw⟩
  by_cases hgw : (c == ClientForm.grpc || c == ClientForm.grpcWeb) = true
  · rw [(encodeEnd_marks _ e true _).2 (by simp [hgw]), hm]; simp [hgw]
  · exact Nat.le_trans (encodeEnd_marks _ e true _).1 (by rw [hm]; simp [hgw])

theorem flushHeaders_ev (w : World) (st : St) : Ev st (flushHeaders w st).1 := by
  intro hg
  cases hf : st.rw.headersFlushed with
  | true => rw [flushHeaders_flushed w st hf]; exact Ev.refl st hg
  | false =>
    have hopen := hg.not_flushed_open hf
    have hm0 := hg.opened hopen
    refine ⟨?_, fun h => by rw [hopen] at h; cases h⟩
    rw [flushHeaders_eq w st hf]
    have hm := headSink_marks w st hm0
    cases he : (st.rw.respMeta.getD {}).«end» with
    | none =>
      have hm : (headSink w st).endMarks = 0 := by rw [hm, he]; simp
      exact ⟨fun h => by simp [hopen] at h, fun _ => hm, by simp only; omega, Sink.endLast_of_marks hm⟩
    | some e =>
      rw [he, Option.isSome_some, Bool.and_true] at hm
      have h := encodeEnd_head_marks st.op.cform e hm (headSink_bodyRaw w st hm0)
      exact ⟨fun _ => ⟨rfl, rfl⟩, nofun, h.1, h.2⟩

theorem Ev.rwUpdate (st : St) (r : RW) (he : r.endWritten = st.rw.endWritten) (herr : st.rw.err = true → r.err = true)
    (hf : r.headersFlushed = st.rw.headersFlushed) : Ev st { st with rw := r } :=
  Ev.of_same he herr hf (SameWire.refl _)

/-- `reportEnd`'s last step: flush and latch the error flag. -/
theorem Ev.finish (st : St) : Ev st { st with sink := st.sink.flush, rw := { st.rw with err := true } } :=
  Ev.of_same rfl (fun _ => rfl) rfl (sameWire_flush _)

theorem Good.withEnd {st : St} (hg : Good st) (hopen : st.rw.endWritten = false) (e : RespEnd) : Good (st.withEnd e) :=
  ((st.withEnd_neutral e hopen).ev hg).1

theorem reportEnd_ev (w : World) (st : St) (e : RespEnd) : Ev st (reportEnd w st e).1 := by
  intro hg
  rcases Bool.eq_false_or_eq_true st.rw.endWritten with ho | ho
  · rw [reportEnd_ended w st e ho]; exact Ev.refl st hg
  · refine ⟨?_, fun h => by rw [ho] at h; cases h⟩
    have hg1 := hg.withEnd ho e
    rw [reportEnd_eq w st e ho]
    split
    · -- the head is out: the end goes behind what was written
      rename_i hfl
      have hm : (st.withEnd e).sink.endMarks = 0 := hg1.opened ho
      refine ⟨fun _ => ⟨rfl, hfl⟩, nofun, ?_, encodeEnd_endLast _ _ _ (Sink.bodyRaw_of_marks hm)⟩
      have := (encodeEnd_marks st.op.cform { e with trailers := effTrailers st e } false (st.withEnd e).sink).1
      rw [hm] at this
      exact this
    · exact (Ev.trans (flushHeaders_ev w _) (Ev.finish _) hg1).1

theorem reportError_ev (w : World) (st : St) (err : Err) : Ev st (reportError w st err).1 := by
  obtain ⟨e, h, _⟩ := reportError_eq w st err
  rw [h]; exact reportEnd_ev w st e

theorem setHdr_ev (st : St) (h : Hdr) : Ev st (st.setHdr h) := (St.setHdr_neutral st h).ev

theorem flushMessage_ev (st : St) : Ev st (flushMessage st) := by
  unfold flushMessage
  split
  · exact Ev.refl st
  · exact Ev.of_same rfl (fun h => h) rfl (sameWire_flush _)

theorem srcUpdate_ev (st : St) (s : Source) : Ev st { st with src := s } := (Neutral.src st s).ev

theorem writeDown_ev (w : World) (st : St) (b : Bytes) (hopen : st.rw.endWritten = false) :
    Ev st (writeDown w st b).1 := by
  unfold writeDown
  split
  · split
    · exact reportError_ev w st _
    · exact Ev.rwUpdate st _ rfl (fun h => h) rfl
  · exact Ev.of_open hopen hopen (endMarks_write _ _)

theorem WrReach.ev {w : World} {a b : St} (r : WrReach w True a b) : Ev a b := by
  induction r with
  | refl => exact Ev.refl _
  | fin _ e ih => exact ih.trans (reportEnd_ev w _ e)
  | down _ ho x ih => exact ih.trans (writeDown_ev w _ x (ho trivial))
  | flush _ ih => exact ih.trans (flushMessage_ev _)

theorem rwSetWriter_ev (st : St) (k : WK) : Ev st (rwSetWriter st k) :=
  Ev.rwUpdate st _ rfl (fun h => h) rfl

theorem Prepared.ev {tb : Tables} {c : Nat} {st s : St} (p : Prepared tb c st s) : Ev st s :=
  (Ev.rwUpdate st { st.rw with headersWritten := true, statusCode := c } rfl id rfl).trans p.neutral.ev

theorem rwWriteHeader_ev (w : World) (tb : Tables) (st : St) (status : Nat) : Ev st (rwWriteHeader w tb st status).1 := by
  have h := rwWriteHeader_path w tb st status
  generalize rwWriteHeader w tb st status = r at h
  cases h with
  | again => exact Ev.refl st
  | ended => exact Ev.rwUpdate st _ rfl id rfl
  | error p => exact p.ev.trans (reportError_ev w _ _)
  | errorBody _ p => exact p.ev.trans (rwSetWriter_ev _ _)
  | @buffered s _ p => exact p.ev.trans ((Ev.rwUpdate s { s.rw with buf := some [] } rfl id rfl).trans (rwSetWriter_ev _ _))
  | trailersOnly p | streaming p => exact p.ev.trans ((flushHeaders_ev w _).trans (rwSetWriter_ev _ _))

theorem rwWrite_ev (w : World) (tb : Tables) (st : St) (data : Bytes) : Ev st (rwWrite w tb st data).1 := by
  intro hg
  have h0 := rwWriteHeader_ev w tb st 200
  -- `fun_cases` names the implicit `WriteHeader` as the `if` it is in the model
  rw [← implicitHeader_eq] at h0
  refine Ev.trans h0 ?_ hg
  have hg0 := (h0 hg).1
  fun_cases rwWrite w tb st data with
  | case3 r0 _ herr e hw =>
    exact Ev.trans (ewWrite_reach rfl fun _ => hg0.live_open (by simpa using herr)).ev (Ev.rwUpdate _ _ rfl (fun h => h) rfl)
  | case4 r0 _ herr t hw =>
    exact Ev.trans (twWrite_reach rfl fun _ => hg0.live_open (by simpa using herr)).ev (Ev.rwUpdate _ _ rfl (fun h => h) rfl)
  | case6 => exact reportError_ev w _ _
  | case7 => exact Ev.rwUpdate _ _ rfl (fun h => h) rfl       -- the error body grows in the writer
  | _ => exact Ev.refl _      -- the other paths return the state the implicit `WriteHeader` left

theorem errorWriterClose_ev (w : World) (tb : Tables) (st : St) (body : Bytes) (kind : EndBody) :
    Ev st (errorWriterClose w tb st body kind).1 := by
  unfold errorWriterClose
  refine Ev.trans ?_ (flushHeaders_ev w _)
  exact Ev.rwUpdate st _ rfl (fun h => h) rfl

theorem rwCloseWriter_ev (w : World) (tb : Tables) (st : St) : Ev st (rwCloseWriter w tb st).1 := by
  rcases rwCloseWriter_reach w True tb st with h | ⟨b, kind, h⟩
  · exact h.ev
  · rw [h]; exact errorWriterClose_ev w tb st b kind

theorem rwCloseEnd_ev (w : World) (tb : Tables) (st : St) : Ev st (rwCloseEnd w tb st).1 := by
  fun_cases rwCloseEnd w tb st
  case case1 => exact Ev.refl st      -- the end is written already
  case case2 => exact reportEnd_ev w st _      -- the end the backend's head announced
  -- the end is in the trailers the handler stored: taken out of the header map, then missing or reported
  case case3 => exact Ev.trans (setHdr_ev st _) (reportError_ev w _ _)
  case case4 => exact Ev.trans (setHdr_ev st _) (reportEnd_ev w _ _)

theorem rwClose_ev (w : World) (tb : Tables) (st : St) : Ev st (rwClose w tb st).1 := by
  have h0 := rwWriteHeader_ev w tb st 200
  rw [← implicitHeader_eq] at h0
  fun_cases rwClose w tb st
  case case1 => exact h0      -- the implicit `WriteHeader` panicked
  case case2 => exact Ev.trans h0 (rwCloseWriter_ev w tb _)      -- closing the body writer panicked
  case case3 => exact Ev.trans h0 (Ev.trans (rwCloseWriter_ev w tb _) (rwCloseEnd_ev w tb _))

theorem runScript_ev (w : World) (tb : Tables) (pl : HandlePlan) (script : List BOp) (total0 : Nat) (f : Flight) :
    Ev f.st (runScript w tb pl script total0 f).1.st :=
  runScript_inv_st (P := Ev f.st) (fun n h => Ev.trans h n.ev) (fun _ _ h => Ev.trans h (reportError_ev w _ _))
    (fun _ _ h => Ev.trans h (rwWriteHeader_ev w tb _ _)) (fun _ _ h => Ev.trans h (rwWrite_ev w tb _ _))
    script total0 f (Ev.refl _)

/-! ### reading the first message before a response writer exists (`report = false`) -/

def SameResp (a b : St) : Prop := b.rw = a.rw ∧ b.sink = a.sink

theorem hardLimitRead_quiet {w : World} {st : St} {limit read n : Nat} {r : Bytes × Option Err × Nat × St × Bool}
    (hx : hardLimitRead w st limit read n false = r) : SameResp st r.2.2.2.1 := by
  subst hx
  fun_cases hardLimitRead w st limit read n false
  case case2 hx => cases hx; exact ⟨rfl, rfl⟩
  all_goals exact ⟨rfl, rfl⟩

theorem copyAllLimited_quiet {w : World} {limit fuel : Nat} {st : St} {read : Nat} {acc : Bytes}
    {r : Bytes × Option Err × St × Bool} (hx : copyAllLimited w false limit fuel st read acc = r) :
    SameResp st r.2.2.1 := by
  subst hx
  fun_induction copyAllLimited w false limit fuel st read acc
  case case1 => exact ⟨rfl, rfl⟩
  all_goals have h1 := hardLimitRead_quiet ‹_›
  case case3 ih => exact ⟨ih.1.trans h1.1, ih.2.trans h1.2⟩
  all_goals exact h1

theorem readRequestMessage_quiet (w : World) (st : St) : SameResp st (readRequestMessage w st false).2.1 := by
  fun_cases readRequestMessage w st false
  case case9 hx => cases hx; exact ⟨rfl, rfl⟩
  case case10 | case11 | case12 => exact copyAllLimited_quiet ‹_›
  all_goals exact ⟨rfl, rfl⟩

theorem opReportError_marks (o : Op) (k : Sink) (err : Err) (hk : k.endMarks = 0) :
    (opReportError o k err).1.endMarks ≤ 1 ∧ (opReportError o k err).1.endLast := by
  unfold opReportError
  simp only
  split
  · exact ⟨by rw [hk]; omega, Sink.endLast_of_marks hk⟩
  · have hm := fun rm => addResponseHeaders_marks o.cform rm k hk
    generalize hr : addResponseHeaders o.cform _ k = r
    have hm' : r.2.endMarks = if ((o.cform == ClientForm.grpc || o.cform == ClientForm.grpcWeb) && true) = true then 1 else 0 := by
      rw [← hr]; exact hm _
    have hraw : r.2.bodyRaw := by
      rw [← hr]; exact bodyRaw_of_items (Sink.bodyRaw_of_marks hk) (addResponseHeaders_items _ _ _).1
    obtain ⟨status, k1⟩ := r
    simp only at hm' hraw ⊢
    cases status with
    | none => exact ⟨by simp only; rw [hm']; split <;> omega, Sink.endLast_of_bodyRaw hraw⟩
    | some sc =>
      exact encodeEnd_head_marks o.cform _ (by rw [endMarks_writeHeader, hm', Bool.and_true]) (bodyRaw_writeHeader hraw _)

theorem httpErrorResponse_marks (code : Nat) (allow : Option Bytes) : (httpErrorResponse {} code allow).endMarks = 0 := by
  unfold httpErrorResponse
  simp [Sink.endMarks, Sink.writeItem, Sink.writeHeader, Item.isEnd]

/-- A handler that works directly on the client's writer (pass-through, unknown endpoint) writes
    bytes of its own; the transcoder adds no end of its own to them. -/
theorem runRaw_marks (script : List BOp) (src : Source) (sink : Sink) (h : sink.endMarks = 0) :
    (runRaw script src sink).sink.endMarks = 0 := by
  unfold runRaw
  refine List.foldlRecOn (motive := fun (a : RawRun) => a.sink.endMarks = 0) script _ h ?_
  intro a ha op _
  cases op <;> simp only
  -- a read, refused after `close` or not, leaves the sink alone
  case readn k buf => cases a.closed <;> exact ha
  case readfix k buf => cases a.closed <;> exact ha
  case readall buf => cases a.closed <;> exact ha
  case sethdr k v => exact ha
  case addhdr k v => exact ha
  case status c => rw [endMarks_writeHeader]; exact ha
  case write b => rw [endMarks_write]; exact ha
  case flush => exact ha
  case close => exact ha

theorem good_init (o : Op) (src : Source) : Good { op := o, src := src, sink := {} } := by
  refine ⟨?_, ?_, ?_, ?_⟩
  · intro h; cases h
  · intro _; rfl
  · simp [Sink.endMarks]
  · intro i hi; simp at hi

theorem Good.of_sameResp {a b : St} (h : SameResp a b) (hg : Good a) : Good b := by
  obtain ⟨h1, h2⟩ := h
  refine ⟨?_, ?_, ?_, ?_⟩
  · intro he; rw [h1] at he ⊢; exact hg.ended he
  · intro he; rw [h1] at he; rw [h2]; exact hg.opened he
  · rw [h2]; exact hg.atMost
  · rw [h2]; exact hg.last

/-- What `transcodePre` may produce: a finished response with at most one end, or a state to go on with. -/
def PreOk (x : Except (Sink × Bool) (St × Option (Bytes × Bool))) : Prop :=
  match x with
  | .error y => y.1.endMarks ≤ 1 ∧ y.1.endLast
  | .ok y => Good y.1

theorem transcodePre_spec (w : World) (o : Op) (pl : HandlePlan) (st0 : St) (hg : Good st0)
    (hopen : st0.rw.endWritten = false) : PreOk (transcodePre w o pl st0) := by
  have hq := readRequestMessage_quiet w st0
  have hmarks : (readRequestMessage w st0 false).2.1.sink.endMarks = 0 := by
    rw [hq.2]; exact hg.opened hopen
  fun_cases transcodePre w o pl st0
  -- a Connect GET whose message cannot be read, or cannot be decoded: the error response is written here
  case case1 | case2 => exact opReportError_marks o _ _ hmarks
  case case3 => exact Good.of_sameResp hq hg
  case case4 => exact hg

theorem transcodePre_fresh (w : World) (o : Op) (pl : HandlePlan) (st0 st : St) (first : Option (Bytes × Bool))
    (h : transcodePre w o pl st0 = .ok (st, first)) : st.rw = st0.rw ∧ st.sink = st0.sink := by
  revert h
  fun_cases transcodePre w o pl st0
  case case1 | case2 => nofun
  case case3 => rintro ⟨⟩; exact readRequestMessage_quiet w st0
  case case4 => rintro ⟨⟩; exact ⟨rfl, rfl⟩

theorem transcodeStartState_ev (st : St) (skip : Bool) : Ev st (transcodeStartState st skip) :=
  (transcodeStartState_neutral st skip).ev

theorem transcodeFinish_ev (w : World) (tb : Tables) (f : Flight) : Ev f.st (transcodeFinish w tb f).1 := by
  unfold transcodeFinish
  split
  · exact Ev.refl _
  · exact rwClose_ev w tb f.st

theorem transcodeRun_good (w : World) (sc : Scenario) (o : Op) (pl : HandlePlan) (st : St)
    (first : Option (Bytes × Bool)) (hg : Good st) :
    (transcodeRun w sc o pl st first).sink.endMarks ≤ 1 ∧ (transcodeRun w sc o pl st first).sink.endLast := by
  unfold transcodeRun
  simp only
  have key := fun skip rd => (Ev.trans (transcodeStartState_ev st skip) (Ev.trans
    (runScript_ev w sc.tables pl sc.script sc.src.left { st := transcodeStartState st skip, rd := rd })
    (transcodeFinish_ev w sc.tables _)) hg).1
  exact ⟨(key _ _).atMost, (key _ _).last⟩

theorem serveTranscode_marks (w : World) (sc : Scenario) (o : Op) :
    (serveTranscode w sc o).sink.endMarks ≤ 1 ∧ (serveTranscode w sc o).sink.endLast := by
  unfold serveTranscode
  have h := transcodePre_spec w o (o.plan w) { op := o, src := sc.src, sink := {} } (good_init o sc.src) rfl
  simp only
  generalize transcodePre w o (o.plan w) { op := o, src := sc.src, sink := {} } = r at h ⊢
  cases r with
  | error x => exact h
  | ok x => exact transcodeRun_good w sc o _ x.1 x.2 h

/-- **Every response of the transcoder carries at most one end, and nothing follows it in the
    body**: whatever the request, the configuration, the backend's script and the client's body are. -/
theorem serve_marks (w : World) (sc : Scenario) : (serve w sc).sink.endMarks ≤ 1 ∧ (serve w sc).sink.endLast := by
  have hzero : ∀ {k : Sink}, k.endMarks = 0 → k.endMarks ≤ 1 ∧ k.endLast :=
    fun h => ⟨by rw [h]; exact Nat.zero_le 1, Sink.endLast_of_marks h⟩
  -- a handler that writes to the client directly (pass-through, unknown endpoint)
  have hraw : ∀ d, (forwardObs sc d).sink.endMarks ≤ 1 ∧ (forwardObs sc d).sink.endLast := by
    intro d
    unfold forwardObs
    exact hzero (runRaw_marks sc.script sc.src {} rfl)
  fun_cases serve w sc
  case case1 => exact hraw .unknown
  case case4 | case5 => exact hraw .svc
  -- 404, or the status validation chose (the arguments are given: left to unification, the marks of the concrete sink are evaluated)
  case case2 => exact hzero (httpErrorResponse_marks 404 none)
  case case3 code allow _ => exact hzero (httpErrorResponse_marks code allow)
  case case6 => exact serveTranscode_marks w sc _

/-! ### at least one end: a completed RPC has its end written -/

theorem flushHeaders_ends (w : World) (st : St) (e : RespEnd) (hf : st.rw.headersFlushed = false)
    (he : (st.rw.respMeta.getD {}).end = some e) : (flushHeaders w st).1.rw.endWritten = true := by
  rw [flushHeaders_eq w st hf, he]

theorem reportEnd_ends (w : World) (st : St) (e : RespEnd) : (reportEnd w st e).1.rw.endWritten = true := by
  rcases Bool.eq_false_or_eq_true st.rw.endWritten with ho | ho
  · rw [reportEnd_ended w st e ho]; exact ho
  · rw [reportEnd_eq w st e ho]
    split
    · rfl
    · rename_i hfl
      exact flushHeaders_ends w (st.withEnd e) _ (Bool.eq_false_iff.2 hfl) rfl

theorem reportError_ends (w : World) (st : St) (err : Err) : (reportError w st err).1.rw.endWritten = true := by
  obtain ⟨e, h, _⟩ := reportError_eq w st err
  rw [h]; exact reportEnd_ends w st e

theorem rwCloseEnd_ends (w : World) (tb : Tables) (st : St) : (rwCloseEnd w tb st).1.rw.endWritten = true := by
  fun_cases rwCloseEnd w tb st
  case case1 h => exact h
  case case2 | case4 => exact reportEnd_ends w _ _
  case case3 => exact reportError_ends w _ _

theorem rwClose_ends (w : World) (tb : Tables) (st : St) (h : (rwClose w tb st).2 = false) :
    (rwClose w tb st).1.rw.endWritten = true := by
  revert h
  fun_cases rwClose w tb st
  case case1 | case2 => nofun      -- a panic
  case case3 => exact fun _ => rwCloseEnd_ends w tb _

end Vanguard
