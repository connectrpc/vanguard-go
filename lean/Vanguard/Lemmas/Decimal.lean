import Vanguard.Model.Decimal
import Vanguard.Lemmas.List
/-! `strconv.FormatInt` and `strconv.ParseInt` (`Model/Decimal`): digit strings, their lengths, the round trip. -/
namespace Vanguard

theorem digitByte_isDigit (n : Nat) : isDigitByte (digitByte n) = true := by
  have h : ∀ k : Fin 10, isDigitByte (UInt8.ofNat (48 + k.val)) = true := by decide
  exact h ⟨n % 10, Nat.mod_lt _ (by omega)⟩

theorem digitByte_val (n : Nat) : (digitByte n).toNat - 48 = n % 10 := by
  have h : ∀ k : Fin 10, (UInt8.ofNat (48 + k.val)).toNat - 48 = k.val := by decide
  exact h ⟨n % 10, Nat.mod_lt _ (by omega)⟩

theorem isDigitByte_iff {c : UInt8} : isDigitByte c = true ↔ 48 ≤ c.toNat ∧ c.toNat ≤ 57 := by
  simp [isDigitByte, UInt8.le_iff_toNat_le]

theorem formatNat_ne_nil (n : Nat) : formatNat n ≠ [] := by
  unfold formatNat; split <;> simp

theorem formatNat_allDigits (n : Nat) : (formatNat n).all isDigitByte = true := by
  fun_induction formatNat n with
  | case1 n _ => simp [digitByte_isDigit]
  | case2 n _ ih => simp [ih, digitByte_isDigit]

theorem formatNat_length_le_iff (k n : Nat) : (formatNat n).length ≤ k + 1 ↔ n < 10 ^ (k + 1) := by
  induction k generalizing n with
  | zero => unfold formatNat; split <;> simp [formatNat_ne_nil, *]
  | succ k ih =>
    rw [formatNat]
    by_cases h : n < 10
    · -- one digit: both sides hold
      rw [if_pos h]
      exact iff_of_true (Nat.le_add_left 1 _) (Nat.lt_of_lt_of_le h (Nat.le_self_pow (Nat.succ_ne_zero _) 10))
    · -- one digit more than `n / 10` has
      rw [if_neg h, List.length_append, List.length_singleton, Nat.add_le_add_iff_right, ih, Nat.pow_succ _ (k + 1),
        Nat.div_lt_iff_lt_mul (by decide)]

theorem formatNat_length_gt (k n : Nat) (h : 10 ^ k ≤ n) : k < (formatNat n).length := by
  cases k with
  | zero => exact List.length_pos_iff.mpr (formatNat_ne_nil n)
  | succ k => exact Nat.lt_of_not_le fun hle => Nat.not_lt.mpr h ((formatNat_length_le_iff k n).mp hle)

theorem formatInt_nonneg (x : Int) (h : 0 ≤ x) : formatInt x = formatNat x.toNat := by
  unfold formatInt
  have : ¬ x < 0 := Int.not_lt.mpr h
  have e : x.natAbs = x.toNat := Int.ofNat_inj.mp ((Int.natAbs_of_nonneg h).trans (Int.toNat_of_nonneg h).symm)
  simp [this, e]

theorem parseNatAcc_snoc (acc : Nat) (a : Bytes) (d : UInt8) :
    parseNatAcc acc (a ++ [d]) =
      (parseNatAcc acc a).bind (fun x => if isDigitByte d then some (x * 10 + (d.toNat - 48)) else none) := by
  fun_induction parseNatAcc acc a with
  | case1 acc => simp [parseNatAcc]
  | case2 acc c rest hc ih => simp only [List.cons_append, parseNatAcc, hc, if_true, ih]
  | case3 acc c rest hc => simp only [List.cons_append, parseNatAcc, hc, Bool.false_eq_true, if_false, Option.bind_none]

theorem parseNatAcc_nondigit (acc : Nat) (s : Bytes) (h : s.all isDigitByte = false) : parseNatAcc acc s = none := by
  fun_induction parseNatAcc acc s with
  | case1 => simp at h
  | case2 acc c rest hc ih =>
    simp only [List.all_cons, hc, Bool.true_and] at h
    exact ih h
  | case3 => rfl

theorem parseNat_eq_none {s : Bytes} (h : s = [] ∨ s.all isDigitByte = false) : parseNat s = none := by
  unfold parseNat
  rcases h with rfl | h
  · rfl
  · split
    · rfl
    · exact parseNatAcc_nondigit _ _ h

theorem parseNatAcc_digits (acc : Nat) (s : Bytes) (h : s.all isDigitByte = true) :
    ∃ v, parseNatAcc acc s = some v ∧ v < (acc + 1) * 10 ^ s.length := by
  -- `v` is `acc * 10 ^ len` plus the digits' own value, which is below `10 ^ len`; step: `acc*10 + d + 1 ≤ (acc+1) * 10`
  fun_induction parseNatAcc acc s with
  | case1 acc => exact ⟨acc, rfl, by simp⟩
  | case2 acc c rest hc ih =>
    simp only [List.all_cons, hc, Bool.true_and] at h
    obtain ⟨v, hv, hlt⟩ := ih h
    refine ⟨v, hv, Nat.lt_of_lt_of_le hlt ?_⟩
    have hd := isDigitByte_iff.mp hc
    rw [List.length_cons, Nat.pow_succ, Nat.mul_comm (10 ^ _) 10, ← Nat.mul_assoc]
    exact Nat.mul_le_mul_right _ (calc
      acc * 10 + (c.toNat - 48) + 1 ≤ acc * 10 + 9 + 1 :=
        Nat.succ_le_succ (Nat.add_le_add_left (Nat.sub_le_sub_right hd.2 48) _)
      _ = (acc + 1) * 10 := (Nat.succ_mul acc 10).symm)
  | case3 acc c rest hc => simp [hc] at h

theorem parseNatAcc_ge (acc : Nat) (s : Bytes) (n : Nat) (h : parseNatAcc acc s = some n) : acc ≤ n := by
  fun_induction parseNatAcc acc s with
  | case1 => cases h; exact Nat.le_refl _
  | case2 acc c rest _ ih =>
    exact Nat.le_trans (Nat.le_trans (Nat.le_mul_of_pos_right _ (by decide)) (Nat.le_add_right _ _)) (ih h)
  | case3 => cases h

theorem parseNatAcc_pos (acc : Nat) (s : Bytes) (n : Nat) (h : parseNatAcc acc s = some n)
    (hnz : s.any (· != 0x30) = true) : 0 < n := by
  fun_induction parseNatAcc acc s with
  | case1 => simp at hnz
  | case2 acc c rest hc ih =>
    simp only [List.any_cons, Bool.or_eq_true] at hnz
    rcases hnz with h0 | hr
    · have hge := parseNatAcc_ge _ _ _ h
      have hd := isDigitByte_iff.mp hc
      have : c.toNat ≠ 48 := fun e => by simp [show c = 0x30 from UInt8.toNat_inj.mp e] at h0
      have hpos : 0 < c.toNat - 48 := Nat.sub_pos_of_lt (Nat.lt_of_le_of_ne hd.1 this.symm)
      exact Nat.lt_of_lt_of_le hpos (Nat.le_trans (Nat.le_add_left _ _) hge)
    · exact ih h hr
  | case3 => cases h

theorem parseNat_pos {s : Bytes} {n : Nat} (h : parseNat s = some n) (hnz : s.any (· != 0x30) = true) : 0 < n := by
  unfold parseNat at h
  split at h
  · cases h
  · exact parseNatAcc_pos 0 s n h hnz

theorem parseNat_formatNat (n : Nat) : parseNat (formatNat n) = some n := by
  have : parseNatAcc 0 (formatNat n) = some n := by
    fun_induction formatNat n with
    | case1 n hlt => simpa [parseNatAcc, digitByte_isDigit, digitByte_val] using hlt
    | case2 n _ ih => rw [parseNatAcc_snoc, ih]; simp [digitByte_isDigit, digitByte_val]; exact Nat.div_add_mod' n 10
  simpa [parseNat, formatNat_ne_nil] using this

theorem parseInt64_digits (s : Bytes) (hne : s ≠ []) (h : s.all isDigitByte = true) :
    ∃ n, parseNat s = some n ∧ n < 10 ^ s.length ∧
      parseInt64 s = if n ≥ 2^63 then none else some (n : Int) := by
  obtain ⟨n, hn, hlt⟩ := parseNatAcc_digits 0 s h
  cases s with
  | nil => exact absurd rfl hne
  | cons c rest =>
    have hp : parseNat (c :: rest) = some n := by simpa [parseNat] using hn
    have hd := isDigitByte_iff.mp (by simpa using h : isDigitByte c = true ∧ _).1
    have h1 : (c == 0x2D) = false := by rw [beq_eq_false_iff_ne]; rintro rfl; simp at hd
    have h2 : (c == 0x2B) = false := by rw [beq_eq_false_iff_ne]; rintro rfl; simp at hd
    exact ⟨n, hp, by simpa using hlt, by simp only [parseInt64, h1, h2, Bool.false_eq_true, if_false, hp]⟩

theorem parseInt64_neg {rest : Bytes} {n : Int} (h : parseInt64 (0x2D :: rest) = some n)
    (hany : rest.any (· != 0x30) = true) : n < 0 := by
  simp only [parseInt64, beq_self_eq_true, if_true] at h
  cases hp : parseNat rest with
  | none => rw [hp] at h; cases h
  | some m =>
    have hpos := parseNat_pos hp hany
    rw [hp] at h
    simp only at h
    by_cases hbig : m > 2^63
    · rw [if_pos hbig] at h; cases h
    · rw [if_neg hbig] at h; cases h; omega

/-- `ParseInt(FormatInt(n)) = n` for every non-negative `int64`. -/
theorem parseInt64_formatNat (n : Nat) (h : n < 2^63) : parseInt64 (formatNat n) = some (n : Int) := by
  obtain ⟨m, hm, _, hp⟩ := parseInt64_digits _ (formatNat_ne_nil n) (formatNat_allDigits n)
  cases (parseNat_formatNat n).symm.trans hm
  rw [hp, if_neg (by omega)]

end Vanguard
