import Vanguard.Lemmas.Router
/-!
  Variable captures never slice out of range: the template parser only produces variables whose
  bounded range lies inside the template (`parser_inv`, by induction on the fuel, path by path through
  the three parser functions), a path that a template matches is at least as long as the template
  (`segMatch_length`), so `routeTargetVar.capture` on a table built by `routeTrie.insert` cannot
  panic (`C06.built_tables_capture_in_range`).
-/
namespace Vanguard
open Spec

/-- Every bounded capture among `vars` ends within the first `n` segments and does not start after
    its end. -/
def VarsIn (vars : List PVar) (n : Nat) : Prop :=
  ∀ v ∈ vars, ∀ e, v.stop = some e → v.start ≤ e ∧ e ≤ n

theorem VarsIn.mono {vars : List PVar} {n m : Nat} (h : VarsIn vars n) (hl : n ≤ m) : VarsIn vars m :=
  fun v hv e he => ⟨(h v hv e he).1, Nat.le_trans (h v hv e he).2 hl⟩

/-- What the parser keeps true from state `st` to state `st'`: closed variables stay inside the
    segments parsed so far, and segments are only added. -/
def Grows (st st' : PState) : Prop :=
  (VarsIn st.vars st.segs.length → VarsIn st'.vars st'.segs.length) ∧ st.segs.length ≤ st'.segs.length

theorem Grows.trans {a b c : PState} (h1 : Grows a b) (h2 : Grows b c) : Grows a c :=
  ⟨fun h => h2.1 (h1.1 h), Nat.le_trans h1.2 h2.2⟩

theorem Grows.of_vars_eq {a b : PState} (hv : b.vars = a.vars) (hl : a.segs.length ≤ b.segs.length) : Grows a b :=
  ⟨fun h => hv ▸ h.mono hl, hl⟩

theorem finishVar_grows {st st' : PState} {fp rest rest' : Bytes} {start : Nat}
    (h : finishVar st fp start rest = some (st', rest')) (hs : start ≤ st.segs.length) : Grows st st' := by
  cases h
  refine ⟨fun hinv v hv e he => ?_, Nat.le_refl _⟩
  rcases List.mem_append.mp hv with hv | hv
  · exact hinv v hv e he
  · cases List.mem_singleton.mp hv
    split at he <;> cases he
    exact ⟨hs, Nat.le_refl _⟩

theorem parser_inv (f : Nat) :
    (∀ st inp st' rest, parseSegments f st inp = some (st', rest) → Grows st st') ∧
    (∀ st inp st' rest, parseSegment f st inp = some (st', rest) → Grows st st') ∧
    (∀ st inp st' rest, parseVariable f st inp = some (st', rest) → Grows st st') := by
  induction f using Nat.strongRecOn with
  | _ f ih =>
    refine ⟨?_, ?_, ?_⟩
    · intro st inp st' rest
      fun_cases parseSegments f st inp <;> intro h
      case case4 hseg =>     -- a `/` follows: on to the next segment
        obtain ⟨ihS, ihG, _⟩ := ih _ (Nat.lt_succ_self _)
        exact (ihG _ _ _ _ hseg).trans (ihS _ _ _ _ h)
      case case5 hseg =>     -- the last segment
        cases h; exact (ih _ (Nat.lt_succ_self _)).2.1 _ _ _ _ hseg
      all_goals cases h
    · intro st inp st' rest
      fun_cases parseSegment f st inp <;> intro h
      case case3 => cases h; exact .of_vars_eq rfl (by simp)           -- `**`
      case case4 => cases h; exact .of_vars_eq rfl (by simp)           -- `*`
      case case5 => exact (ih _ (Nat.lt_succ_self _)).2.2 _ _ _ _ h    -- `{`
      case case6 c rest0 _ _ _ =>                                      -- a literal
        cases hp : parseLiteral (c :: rest0) with
        | none => rw [hp] at h; cases h
        | some y => rw [hp] at h; cases h; exact .of_vars_eq rfl (by simp)
      all_goals cases h
    · intro st inp st' rest
      fun_cases parseVariable f st inp <;> intro h
      case case4 =>          -- `{fp}`: one `*` segment
        have hl : st.segs.length ≤ (st.segs ++ [starSeg]).length := by simp
        refine Grows.trans ?_ (finishVar_grows h hl)
        exact .of_vars_eq rfl hl
      case case5 hps _ =>    -- `{fp=segments}`
        have g2 := (ih _ (Nat.lt_succ_self _)).1 _ _ _ _ hps
        exact (Grows.trans (.of_vars_eq rfl (Nat.le_refl _)) g2).trans (finishVar_grows h g2.2)
      all_goals cases h

theorem parseTemplate_ok {inp : Bytes} {t : Template} (h : parseTemplate inp = some t) : VarsIn t.vars t.segs.length := by
  unfold parseTemplate at h
  split at h
  · rename_i rest
    generalize hp : parseSegments _ {} rest = ps at h
    cases ps with
    | none => cases h
    | some x =>
      obtain ⟨st, r⟩ := x
      have hinv := ((parser_inv _).1 _ _ _ _ hp).1 (fun _ hv => nomatch hv)
      split at h
      · cases h
      · rename_i heq; cases heq; cases h; exact hinv
      · rename_i heq; cases heq
        split at h
        · cases h; exact hinv
        · cases h
      · cases h
  · cases h

theorem segMatch_length (segs path : List Bytes) (h : segMatch segs path = true) : segs.length ≤ path.length := by
  fun_induction segMatch segs path with
  | case1 => exact Nat.le_refl _
  | case2 t ts p ps ih =>
    simp only [Bool.or_eq_true, Bool.and_eq_true] at h
    rcases h with (h | h) | h
    · exact Nat.succ_le_succ (ih h.2)
    · exact Nat.succ_le_succ (ih h.2)
    · rw [List.isEmpty_iff.mp h.2]; exact Nat.succ_le_succ (Nat.zero_le _)
  | case3 => cases h

theorem captureVar_no_panic (path : List Bytes) (v : PVar) (h : ∀ e, v.stop = some e → v.start ≤ e ∧ e ≤ path.length) :
    captureVar path v ≠ .panic := by
  unfold captureVar
  cases hs : v.stop with
  | none =>
    simp only
    split <;> simp
  | some e =>
    obtain ⟨h1, h2⟩ := h e hs
    simp only [h1, h2, and_self, if_true]
    split <;> simp

theorem captureAll_no_panic (path : List Bytes) (vars : List PVar) (h : VarsIn vars path.length) :
    captureAll path vars ≠ .panic := by
  fun_induction captureAll path vars with
  | case4 v vs x hx hp ih => exact absurd hp (ih fun y hy => h y (List.mem_cons_of_mem _ hy))   -- a later variable
  | case6 v vs hp => exact absurd hp (captureVar_no_panic path v (h v List.mem_cons_self))       -- this variable
  | _ => nofun

end Vanguard
