import Vanguard.Lemmas.Envelope
import Vanguard.Lemmas.ReframeStream
import Vanguard.Lemmas.ReframeSplit
import Vanguard.Lemmas.CleanStream
/-!
  What a streaming client receives for a well-formed backend stream is **well framed** in the client's
  own dialect (C03).
-/
namespace Vanguard

/-- A sequence of data frames: flag 0 or 1, length = the number of payload bytes that follow. -/
inductive WellFramed : Bytes → Prop
  | nil : WellFramed []
  | cons (flag a b c d : UInt8) (payload rest : Bytes) :
      (flag = 0 ∨ flag = 1) → fromBe32 a b c d = payload.length → WellFramed rest →
      WellFramed (flag :: a :: b :: c :: d :: (payload ++ rest))

theorem WellFramed.frame (cc : Enveloper) (env : Envelope) (payload rest : Bytes) (hnt : env.trailer = false)
    (hlen : env.length = payload.length) (hlt : env.length < 4294967296) (hr : WellFramed rest) :
    WellFramed (cc.encode env ++ payload ++ rest) := by
  rw [cc.encode_data env hnt]
  exact WellFramed.cons _ _ _ _ _ payload rest (by cases env.compressed <;> simp) ((fromBe32_ofNat _ hlt).trans hlen) hr

theorem reframedAll_wellFramed (ce se : Enveloper) (maxMsg : Nat) (hmax : maxMsg < 4294967296) :
    ∀ fs : List Frame, (∀ x ∈ fs, x.ok ce maxMsg) → WellFramed (reframedAll ce se fs) := by
  intro fs
  induction fs with
  | nil => intro _; exact WellFramed.nil
  | cons x xs ih =>
    intro hok
    obtain ⟨env, hdec, hnt, hlen, hle⟩ := hok x List.mem_cons_self
    simp only [reframedAll, hdec]
    exact WellFramed.frame se env x.payload _ hnt hlen (Nat.lt_of_le_of_lt (Nat.not_lt.mp hle) hmax) (ih fun y hy => hok y (List.mem_cons_of_mem _ hy))

theorem respReframedAll_eq (se cc : Enveloper) (fs : List Frame) : respReframedAll se cc fs = reframedAll se cc fs := by
  induction fs with
  | nil => rfl
  | cons x xs ih => rw [respReframedAll, reframedAll, ih]; rfl

theorem respReframedAll_wellFramed (se cc : Enveloper) (maxMsg : Nat) (hmax : maxMsg < 4294967296)
    (fs : List Frame) (hok : ∀ x ∈ fs, x.ok se maxMsg) : WellFramed (respReframedAll se cc fs) :=
  respReframedAll_eq se cc fs ▸ reframedAll_wellFramed se cc maxMsg hmax fs hok

theorem respConvertedAll_wellFramed (w : World) (st : St) (se cc : Enveloper) (hmax : st.op.conf.maxMsg < 4294967296) :
    ∀ (fs : List Frame) (out : Bytes), respConvertedAll w st se cc fs = some out → WellFramed out := by
  intro fs
  induction fs with
  | nil => rintro _ ⟨⟩; exact WellFramed.nil
  | cons x xs ih =>
    intro out h
    cases hdec : se.decode x.f x.a x.b x.c x.d with
    | none => rw [respConvertedAll, hdec] at h; cases h
    | some env =>
      obtain ⟨b, bs, hc, hr, rfl⟩ := respConvertedAll_cons hdec h
      obtain ⟨o, -, hol, rfl⟩ := respConverted_some hc
      exact WellFramed.frame cc _ o bs rfl rfl (Nat.lt_of_le_of_lt (Nat.not_lt.mp hol) hmax) (ih bs hr)

theorem convertedAll_wellFramed (w : World) (pl : HandlePlan) (st : St) (ce se : Enveloper)
    (hse : st.op.serverEnveloper = some se) (hmax : st.op.conf.maxMsg < 4294967296) :
    ∀ (fs : List Frame) (out : Bytes), convertedAll w pl st ce fs = some out → WellFramed out := by
  intro fs
  induction fs with
  | nil => rintro _ ⟨⟩; exact WellFramed.nil
  | cons x xs ih =>
    intro out h
    rw [convertedAll] at h
    split at h
    next b bs hc hr =>
      cases h
      unfold Frame.converted at hc
      split at hc
      next o env hp =>
        cases hc
        obtain ⟨hle, rfl⟩ := requestEnvelope_ok (trPrepare_ok hp)
        rw [hse]
        exact WellFramed.frame se _ o bs rfl rfl (Nat.lt_of_le_of_lt hle hmax) (ih bs hr)
      next => cases hc
    next => cases h

end Vanguard
