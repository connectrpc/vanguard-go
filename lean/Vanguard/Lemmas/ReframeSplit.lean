import Vanguard.Lemmas.RespStream
/-!
  The re-framing writer (`envelopingWriter`) fed a well-formed stream of backend frames **in arbitrary
  pieces** (C01, C08).

  `Phase` describes the writer between two `Write` calls as a function of the frames completed so far
  (`done`) and the bytes of the stream still to come (`rem`): between messages with nothing left
  (`fin`), inside an envelope of which `need` bytes are missing, or inside a payload of which `left`
  bytes are missing.  `ewLoop_phase_flushed`, `ewWrite_phase`: a `Write` whose data is a prefix of `rem` succeeds and leaves
  the writer in the phase that belongs to the rest.  What the client has received is, in every phase,
  the re-framed completed messages plus - inside a payload - the client's envelope and the payload
  bytes seen so far.  `ewWrites_clean_flushed`: hence any sequence of pieces whose concatenation is the
  stream puts exactly `respReframedAll` on the client's connection, and flushes it.
-/
namespace Vanguard

/-- What the client is to receive for a list of backend frames on the re-framing path: for each its own
    envelope (same flags and length in the client's dialect), then the payload, untouched. -/
def respReframedAll (se cc : Enveloper) : List Frame → Bytes
  | [] => []
  | x :: xs =>
    (match se.decode x.f x.a x.b x.c x.d with
      | some env => cc.encode env
      | none => []) ++ x.payload ++ respReframedAll se cc xs

theorem respReframedAll_snoc (se cc : Enveloper) (done : List Frame) (x : Frame) (env : Envelope)
    (hdec : se.decode x.f x.a x.b x.c x.d = some env) :
    respReframedAll se cc (done ++ [x]) = respReframedAll se cc done ++ (cc.encode env ++ x.payload) := by
  induction done with
  | nil => simp [respReframedAll, hdec]
  | cons y ys ih => simp [respReframedAll, ih, List.append_assoc]

theorem split_cases {a b d t : Bytes} (h : a ++ b = d ++ t) :
    (∃ a', a' ≠ [] ∧ a = d ++ a' ∧ t = a' ++ b) ∨ (∃ d', d = a ++ d' ∧ b = d' ++ t) := by
  rcases List.append_eq_append_iff.mp h with ⟨d', h1, h2⟩ | ⟨a', h1, h2⟩
  · exact .inr ⟨d', h1, h2⟩
  · by_cases ha : a' = []
    · subst ha
      exact .inr ⟨[], by rw [h1, List.append_nil, List.append_nil], h2.symm ▸ rfl⟩
    · exact .inl ⟨a', ha, h1, h2⟩

structure PCommon (se cc : Enveloper) (st : St) (e : EW) : Prop where
  buf : st.rw.buf = none
  hse : st.op.serverEnveloper = some se
  hcc : st.op.clientEnveloper = some cc
  err : e.err = false
  notTrailer : e.currentIsTrailer = false

/-- Between messages, nothing more to come.  (`R0`: what the client's connection held before the stream.) -/
structure PFin (se cc : Enveloper) (R0 : Bytes) (fs : List Frame) (st : St) (e : EW) (done : List Frame) (rem : Bytes) : Prop where
  common : PCommon se cc st e
  we : e.writingEnvelope = true
  env : e.env = []
  remaining : e.remaining = 5
  raw : rawBytes st.sink.items = R0 ++ respReframedAll se cc done
  tot : done = fs
  rem : rem = []

/-- Inside the envelope of frame `x`: `need` bytes of it are missing. -/
structure PEnv (se cc : Enveloper) (R0 : Bytes) (fs : List Frame) (st : St) (e : EW) (done : List Frame) (rem : Bytes)
    (x : Frame) (xs : List Frame) (need : Bytes) : Prop where
  common : PCommon se cc st e
  we : e.writingEnvelope = true
  need_ne : need ≠ []
  env : e.env ++ need = [x.f, x.a, x.b, x.c, x.d]
  remaining : e.remaining = need.length
  raw : rawBytes st.sink.items = R0 ++ respReframedAll se cc done
  ok : ∀ y ∈ x :: xs, y.ok se st.op.conf.maxMsg
  tot : done ++ x :: xs = fs
  rem : rem = need ++ (x.payload ++ framesBytes xs)

/-- Inside the payload of frame `x`: `written` is out, `left` is missing. -/
structure PPay (se cc : Enveloper) (R0 : Bytes) (fs : List Frame) (st : St) (e : EW) (done : List Frame) (rem : Bytes)
    (x : Frame) (xs : List Frame) (env : Envelope) (written left : Bytes) : Prop where
  common : PCommon se cc st e
  we : e.writingEnvelope = false
  envNil : e.env = []
  cur : e.current = .down
  dec : se.decode x.f x.a x.b x.c x.d = some env
  split : written ++ left = x.payload
  remaining : e.remaining = left.length
  raw : rawBytes st.sink.items = R0 ++ respReframedAll se cc done ++ (cc.encode env ++ written)
  ok : ∀ y ∈ xs, y.ok se st.op.conf.maxMsg
  tot : done ++ x :: xs = fs
  rem : rem = left ++ framesBytes xs

/-- The writer between two `Write` calls of a well-formed stream. `exit` = as a `Write` leaves it
    (inside a payload at least one byte is missing).  Two variants, because in the middle of a call an envelope that
    announces length 0 enters the payload phase with nothing missing; between calls at least one byte is missing. -/
def Phase (se cc : Enveloper) (R0 : Bytes) (fs : List Frame) (exit : Bool) (st : St) (e : EW) (done : List Frame) (rem : Bytes) : Prop :=
  PFin se cc R0 fs st e done rem ∨
  (∃ x xs need, PEnv se cc R0 fs st e done rem x xs need) ∨
  (∃ x xs env written left, PPay se cc R0 fs st e done rem x xs env written left ∧ (exit = true → left ≠ []))

/-! One round of `ewLoop` on a live writer, as equations: the induction over the phases unfolds the loop nowhere else. -/

section Round
variable {w : World} {st : St} {e : EW} {se cc : Enveloper}

theorem ewWritePiece_envelope (w : World) (st : St) (p : Bytes) (hwe : e.writingEnvelope = true) :
    ewWritePiece w st e p = (st, { e with env := e.env ++ p }, false, false) := by
  rw [ewWritePiece, if_pos hwe]

theorem ewWritePiece_down (w : World) (p : Bytes) (hwe : e.writingEnvelope = false) (hcur : e.current = .down)
    (hb : st.rw.buf = none) :
    ewWritePiece w st e p = ({ st with sink := st.sink.write p }, e, false, false) := by
  rw [ewWritePiece, if_neg (ne_true_of_eq_false hwe), hcur]
  simp only [writeDown, hb]

theorem ewEnvelopeWritten_data {env : Envelope} {f a b c d : UInt8}
    (hse : st.op.serverEnveloper = some se) (hcc : st.op.clientEnveloper = some cc) (hb : st.rw.buf = none)
    (henv : e.env = [f, a, b, c, d]) (hdec : se.decode f a b c d = some env) (hnt : env.trailer = false) :
    ewEnvelopeWritten w st e = ({ st with sink := st.sink.write (cc.encode env) },
      { e with writingEnvelope := false, env := [], current := .down, remaining := env.length }, false, false) := by
  simp only [ewEnvelopeWritten, hse, henv, hdec, hnt, hcc, writeDown, hb, Bool.false_eq_true, if_false]

theorem ewLoop_inside (tb : Tables) (n : Nat) {d : Bytes} {s1 : St} {e1 : EW} (herr : e.err = false)
    (hlt : (d.length : Int) < e.remaining) (hp : ewWritePiece w st e d = (s1, e1, false, false)) :
    ewLoop w tb (n + 1) st e d = (s1, { e1 with remaining := e1.remaining - d.length }, false, false) := by
  rw [ewLoop, if_neg (ne_true_of_eq_false herr), if_pos hlt, hp]
  simp only [Bool.or_false]

theorem not_inside {p rest : Bytes} (hrem : e.remaining = p.length) : ¬ ((p ++ rest).length : Int) < e.remaining := by
  rw [hrem, List.length_append]
  exact Int.not_lt.mpr (Int.ofNat_le.mpr (Nat.le_add_right _ _))

/- In the two rounds below `change` names the tests the round passes, so that each is decided by one `rw`:
   `simp only` with the same facts would walk every branch of the loop body. -/
theorem ewLoop_envelope (tb : Tables) (n : Nat) {need rest : Bytes} {env : Envelope} {f a b c d : UInt8}
    (hc : PCommon se cc st e) (hwe : e.writingEnvelope = true) (hrem : e.remaining = need.length)
    (henv : e.env ++ need = [f, a, b, c, d]) (hdec : se.decode f a b c d = some env) (hnt : env.trailer = false) :
    ewLoop w tb (n + 1) st e (need ++ rest) =
      ewLoop w tb n { st with sink := st.sink.write (cc.encode env) }
        { e with writingEnvelope := false, env := [], current := .down, remaining := env.length } rest := by
  rw [ewLoop, if_neg (ne_true_of_eq_false hc.err), if_neg (not_inside hrem), hrem, Int.toNat_natCast]
  extract_lets k rest'
  rw [List.take_left' (rfl : need.length = k), show rest' = rest from List.drop_left' rfl, ewWritePiece_envelope w st need hwe]
  change (if (false || false) = true then _ else if _ then _ else _) = _
  rw [if_neg (by decide), if_pos hwe, ewEnvelopeWritten_data hc.hse hc.hcc hc.buf henv hdec hnt]
  rfl

theorem ewLoop_message (tb : Tables) (n : Nat) {left rest : Bytes}
    (hc : PCommon se cc st e) (hwe : e.writingEnvelope = false) (hcur : e.current = .down) (hrem : e.remaining = left.length) :
    ewLoop w tb (n + 1) st e (left ++ rest) =
      ewLoop w tb n { st with sink := (st.sink.write left).flush } { e with writingEnvelope := true, remaining := 5 } rest := by
  rw [ewLoop, if_neg (ne_true_of_eq_false hc.err), if_neg (not_inside hrem), hrem, Int.toNat_natCast]
  extract_lets k rest'
  rw [List.take_left' (rfl : left.length = k), show rest' = rest from List.drop_left' rfl, ewWritePiece_down w left hwe hcur hc.buf]
  change (if (false || false) = true then _ else if _ then _ else if _ then _ else _) = _
  rw [if_neg (by decide), if_neg (ne_true_of_eq_false hwe), if_neg (ne_true_of_eq_false hc.notTrailer)]
  simp only [flushMessage, hc.buf, Option.isSome_none, Bool.false_eq_true, if_false]

end Round

section
variable {se cc : Enveloper} {R0 : Bytes} {fs : List Frame} {st : St} {e : EW} {done : List Frame} {rem : Bytes}

theorem PCommon.keep {st' : St} {e' : EW} (h : PCommon se cc st e) (hrw : st'.rw = st.rw)
    (hop : st'.op = st.op) (herr : e'.err = e.err) (ht : e'.currentIsTrailer = e.currentIsTrailer) : PCommon se cc st' e' :=
  ⟨hrw ▸ h.buf, hop ▸ h.hse, hop ▸ h.hcc, herr ▸ h.err, ht ▸ h.notTrailer⟩

theorem Phase.weaken (h : Phase se cc R0 fs true st e done rem) : Phase se cc R0 fs false st e done rem := by
  rcases h with h | h | ⟨x, xs, env, wr, lf, h, _⟩
  · exact Or.inl h
  · exact Or.inr (Or.inl h)
  · exact Or.inr (Or.inr ⟨x, xs, env, wr, lf, h, fun h => by cases h⟩)

theorem Phase.start {todo : List Frame} (hc : PCommon se cc st e) (hwe : e.writingEnvelope = true) (henv : e.env = []) (hrem : e.remaining = 5)
    (hraw : rawBytes st.sink.items = R0 ++ respReframedAll se cc done)
    (hok : ∀ y ∈ todo, y.ok se st.op.conf.maxMsg) (htot : done ++ todo = fs) :
    Phase se cc R0 fs true st e done (framesBytes todo) := by
  cases todo with
  | nil => exact .inl ⟨hc, hwe, henv, hrem, hraw, (List.append_nil done).symm.trans htot, rfl⟩
  | cons x xs =>
    exact .inr (.inl ⟨x, xs, [x.f, x.a, x.b, x.c, x.d], hc, hwe, List.cons_ne_nil _ _, by rw [henv]; rfl, hrem, hraw, hok, htot,
      (framesBytes_cons x xs).trans (List.append_assoc _ _ _)⟩)

theorem Phase.fresh (hb : st.rw.buf = none) (hse : st.op.serverEnveloper = some se) (hcc : st.op.clientEnveloper = some cc)
    (hok : ∀ x ∈ fs, x.ok se st.op.conf.maxMsg) :
    Phase se cc (rawBytes st.sink.items) fs true st { initialized := true, writingEnvelope := true, remaining := 5 } []
      (framesBytes fs) :=
  Phase.start ⟨hb, hse, hcc, rfl, rfl⟩ rfl rfl rfl (List.append_nil _).symm hok rfl

theorem Phase.live {x : Bool} (h : Phase se cc R0 fs x st e done rem) : e.err = false ∧ 0 ≤ e.remaining := by
  rcases h with h | ⟨_, _, _, h⟩ | ⟨_, _, _, _, _, h, _⟩ <;> exact ⟨h.common.err, by rw [h.remaining]; omega⟩

theorem Phase.finished (h : Phase se cc R0 fs true st e done []) : PFin se cc R0 fs st e done [] := by
  rcases h with h | ⟨x, xs, need, h⟩ | ⟨x, xs, env, wr, lf, h, hx⟩
  · exact h
  · exact absurd (List.append_eq_nil_iff.mp h.rem.symm).1 h.need_ne
  · exact absurd (List.append_eq_nil_iff.mp h.rem.symm).1 (hx rfl)

end

/-- Fuel that is enough for the loop on `d`: it is `C11.mu e d + 1` (the loop measure, `Lemmas/WriteLoops.lean`). -/
def phaseFuel (e : EW) (d : Bytes) : Nat := 2 * d.length + (if e.writingEnvelope then 1 else 2)

theorem phaseFuel_envelope {e : EW} (d : Bytes) (h : e.writingEnvelope = true) : phaseFuel e d = 2 * d.length + 1 := by
  rw [phaseFuel, if_pos h]

theorem phaseFuel_payload {e : EW} (d : Bytes) (h : e.writingEnvelope = false) : phaseFuel e d = 2 * d.length + 2 := by
  rw [phaseFuel, if_neg (ne_true_of_eq_false h)]

/-- Outside a payload, once a message is through, everything written has been flushed. -/
def Flushed (st : St) (e : EW) (done : List Frame) : Prop :=
  e.writingEnvelope = true → done ≠ [] → st.sink.flushedAfterLast

theorem ewLoop_phase_flushed (w : World) (tb : Tables) {se cc : Enveloper} {R0 : Bytes} {fs : List Frame} :
    ∀ (fuel : Nat) {st : St} {e : EW} {done : List Frame} {rem d tail : Bytes},
      Phase se cc R0 fs false st e done rem → rem = d ++ tail → phaseFuel e d ≤ fuel →
      ∃ st' e' done', ewLoop w tb fuel st e d = (st', e', false, false) ∧ Phase se cc R0 fs true st' e' done' tail ∧
        st'.op = st.op ∧ e'.initialized = e.initialized ∧ (Flushed st e done → Flushed st' e' done') := by
  intro fuel
  induction fuel with
  | zero =>
    intro st e done rem d tail _ _ hf
    cases hwe : e.writingEnvelope
    · exact absurd (phaseFuel_payload d hwe ▸ hf) (Nat.not_succ_le_zero _)
    · exact absurd (phaseFuel_envelope d hwe ▸ hf) (Nat.not_succ_le_zero _)
  | succ n ih =>
    intro st e done rem d tail hp hrem hf
    subst hrem
    rcases hp with hfin | ⟨x, xs, need, henv⟩ | ⟨x, xs, env, written, left, hpay, _⟩
    · -- nothing to come: `d` is empty
      have hc := hfin.common
      obtain ⟨rfl, rfl⟩ := List.append_eq_nil_iff.mp hfin.rem
      refine ⟨_, _, done, ewLoop_inside tb n hc.err (by rw [hfin.remaining]; decide) (ewWritePiece_envelope w st [] hfin.we),
        ?_, rfl, rfl, id⟩
      exact .inl ⟨hc.keep rfl rfl rfl rfl, hfin.we, (List.append_nil _).trans hfin.env,
        by simp [hfin.remaining], hfin.raw, hfin.tot, rfl⟩
    · -- inside an envelope
      have hc := henv.common
      rcases split_cases henv.rem.symm with ⟨need', hne, rfl, rfl⟩ | ⟨d2, rfl, hrest⟩
      · -- the piece ends inside the envelope
        have hpos := List.length_pos_iff.mpr hne
        refine ⟨_, _, done, ewLoop_inside tb n hc.err (by rw [henv.remaining, List.length_append]; exact Int.ofNat_lt.mpr (Nat.lt_add_of_pos_right hpos))
          (ewWritePiece_envelope w st d henv.we), ?_, rfl, rfl, id⟩
        exact .inr (.inl ⟨x, xs, need', (hc.keep rfl rfl rfl rfl), henv.we, hne,
          (List.append_assoc _ _ _).trans henv.env, by simp only [henv.remaining, List.length_append]; exact Int.sub_eq_iff_eq_add'.mpr (Int.natCast_add _ _),
          henv.raw, henv.ok, henv.tot, rfl⟩)
      · -- the piece completes the envelope: the payload begins
        obtain ⟨env, hdec, hnt, hlen, _⟩ := henv.ok x List.mem_cons_self
        rw [ewLoop_envelope tb n hc henv.we henv.remaining henv.env hdec hnt]
        have hp1 : Phase se cc R0 fs false { st with sink := st.sink.write (cc.encode env) }
            { e with writingEnvelope := false, env := [], current := .down, remaining := env.length } done
            (x.payload ++ framesBytes xs) :=
          .inr (.inr ⟨x, xs, env, [], x.payload, ⟨hc.keep rfl rfl rfl rfl, rfl, rfl, rfl, hdec, rfl,
            congrArg Int.ofNat hlen, by rw [rawBytes_write, henv.raw, List.append_nil],
            fun y hy => henv.ok y (List.mem_cons_of_mem _ hy), henv.tot, rfl⟩, nofun⟩)
        have hpos := List.length_pos_iff.mpr henv.need_ne
        obtain ⟨st', e', done', h1, h2, h3, h4, h5⟩ := ih hp1 hrest
          (by rw [phaseFuel_envelope _ henv.we, List.length_append] at hf; rw [phaseFuel_payload d2 rfl]; omega)
        exact ⟨st', e', done', h1, h2, h3, h4, fun _ => h5 nofun⟩
    · -- inside a payload
      have hc := hpay.common
      rcases split_cases hpay.rem.symm with ⟨left', hne, rfl, rfl⟩ | ⟨d2, rfl, hrest⟩
      · -- the piece ends inside the payload
        have hpos := List.length_pos_iff.mpr hne
        refine ⟨_, _, done, ewLoop_inside tb n hc.err (by rw [hpay.remaining, List.length_append]; exact Int.ofNat_lt.mpr (Nat.lt_add_of_pos_right hpos))
          (ewWritePiece_down w d hpay.we hpay.cur hc.buf), ?_, rfl, rfl, fun _ h => by cases hpay.we.symm.trans h⟩
        exact .inr (.inr ⟨x, xs, env, written ++ d, left', ⟨hc.keep rfl rfl rfl rfl, hpay.we, hpay.envNil,
          hpay.cur, hpay.dec, (List.append_assoc _ _ _).trans hpay.split, by simp only [hpay.remaining, List.length_append]; exact Int.sub_eq_iff_eq_add'.mpr (Int.natCast_add _ _),
          by simp only [rawBytes_write, hpay.raw, List.append_assoc], hpay.ok, hpay.tot, rfl⟩, fun _ => hne⟩)
      · -- the piece completes the message: the next frame begins
        rw [ewLoop_message tb n hc hpay.we hpay.cur hpay.remaining]
        have hp1 : Phase se cc R0 fs true { st with sink := (st.sink.write left).flush }
            { e with writingEnvelope := true, remaining := 5 } (done ++ [x]) (framesBytes xs) :=
          Phase.start (hc.keep rfl rfl rfl rfl) rfl hpay.envNil rfl
            (by simp only [Sink.flush, rawBytes_write, hpay.raw, respReframedAll_snoc se cc done x env hpay.dec, ← hpay.split,
              List.append_assoc])
            hpay.ok (by rw [← hpay.tot, List.append_assoc]; rfl)
        obtain ⟨st', e', done', h1, h2, h3, h4, h5⟩ := ih hp1.weaken hrest
          (by rw [phaseFuel_payload _ hpay.we, List.length_append] at hf; rw [phaseFuel_envelope d2 rfl]; omega)
        exact ⟨st', e', done', h1, h2, h3, h4, fun _ => h5 fun _ _ => rfl⟩

theorem ewLoop_phase (w : World) (tb : Tables) (se cc : Enveloper) (R0 : Bytes) (fs : List Frame) :
    ∀ (fuel : Nat) (st : St) (e : EW) (done : List Frame) (rem d tail : Bytes),
      Phase se cc R0 fs false st e done rem → rem = d ++ tail → phaseFuel e d ≤ fuel →
      ∃ st' e' done', ewLoop w tb fuel st e d = (st', e', false, false) ∧ Phase se cc R0 fs true st' e' done' tail ∧
        st'.op = st.op ∧ e'.initialized = e.initialized := by
  intro fuel st e done rem d tail hp hrem hf
  obtain ⟨st', e', done', h1, h2, h3, h4, _⟩ := ewLoop_phase_flushed w tb fuel hp hrem hf
  exact ⟨st', e', done', h1, h2, h3, h4⟩

theorem ewWrite_phase (w : World) (tb : Tables) {se cc : Enveloper} {R0 : Bytes} {fs : List Frame}
    {st : St} {e : EW} {done : List Frame} {rem d tail : Bytes} (hi : e.initialized = true)
    (hp : Phase se cc R0 fs true st e done rem) (hrem : rem = d ++ tail) :
    ∃ st' e' done', ewWrite w tb st e d = (st', e', false, false) ∧ Phase se cc R0 fs true st' e' done' tail ∧
      e'.initialized = true ∧ (Flushed st e done → Flushed st' e' done') := by
  obtain ⟨herr, hr⟩ := hp.live
  have hne : (e.remaining == -1) = false := beq_eq_false_iff_ne.mpr (by omega)
  have heq : ewWrite w tb st e d = ewLoop w tb (2 * d.length + 4) st e d := by
    unfold ewWrite ewInit
    simp only [hi, ↓reduceIte, Bool.false_eq_true, herr, Int.reduceNeg, hne]
  rw [heq]
  obtain ⟨st', e', done', h1, h2, _, h4, h5⟩ := ewLoop_phase_flushed w tb (2 * d.length + 4) hp.weaken hrem
    (Nat.add_le_add_left (by split <;> decide) _)
  exact ⟨st', e', done', h1, h2, h4.trans hi, h5⟩

/-- The handler's `Write` calls one after the other; the first failing call ends the sequence. -/
def ewWrites (w : World) (tb : Tables) : St → EW → List Bytes → St × EW × Bool × Bool
  | st, e, [] => (st, e, false, false)
  | st, e, d :: ds =>
    if ((ewWrite w tb st e d).2.2.1 || (ewWrite w tb st e d).2.2.2) = true then ewWrite w tb st e d
    else ewWrites w tb (ewWrite w tb st e d).1 (ewWrite w tb st e d).2.1 ds

theorem ewWrites_singleton (w : World) (tb : Tables) (st : St) (e : EW) (d : Bytes) :
    ewWrites w tb st e [d] = ewWrite w tb st e d := by
  rw [ewWrites, ewWrites]
  generalize ewWrite w tb st e d = r
  obtain ⟨s, e', failed, p⟩ := r
  cases failed <;> cases p <;> rfl

theorem ewWrites_phase (w : World) (tb : Tables) {se cc : Enveloper} {R0 : Bytes} {fs : List Frame} :
    ∀ (ds : List Bytes) {st : St} {e : EW} {done : List Frame} {rem tail : Bytes}, e.initialized = true →
      Phase se cc R0 fs true st e done rem → rem = ds.flatten ++ tail →
      ∃ st' e' done', ewWrites w tb st e ds = (st', e', false, false) ∧ Phase se cc R0 fs true st' e' done' tail ∧
        (Flushed st e done → Flushed st' e' done') := by
  intro ds
  induction ds with
  | nil =>
    intro st e done rem tail _ hp hrem
    cases hrem
    exact ⟨st, e, done, rfl, hp, id⟩
  | cons d ds ih =>
    intro st e done rem tail hi hp hrem
    rw [List.flatten_cons, List.append_assoc] at hrem
    obtain ⟨st1, e1, done1, h1, h2, h4, hf1⟩ := ewWrite_phase w tb hi hp hrem
    obtain ⟨st', e', done', h5, h6, hf2⟩ := ih h4 h2 rfl
    refine ⟨st', e', done', ?_, h6, hf2 ∘ hf1⟩
    rw [ewWrites, h1]
    exact h5

theorem ewWrites_clean_flushed (w : World) (tb : Tables) (se cc : Enveloper) (st : St) (fs : List Frame) (ds : List Bytes)
    (hb : st.rw.buf = none) (hse : st.op.serverEnveloper = some se) (hcc : st.op.clientEnveloper = some cc)
    (hok : ∀ x ∈ fs, x.ok se st.op.conf.maxMsg) (hds : ds.flatten = framesBytes fs) :
    ∃ st' e', ewWrites w tb st { initialized := true, writingEnvelope := true, remaining := 5 } ds = (st', e', false, false) ∧
      rawBytes st'.sink.items = rawBytes st.sink.items ++ respReframedAll se cc fs ∧ (fs ≠ [] → st'.sink.flushedAfterLast) := by
  obtain ⟨st', e', done', h1, h2, h3⟩ := ewWrites_phase w tb ds rfl (Phase.fresh hb hse hcc hok)
    (by rw [hds, List.append_nil])
  have hfin := h2.finished
  exact ⟨st', e', h1, hfin.tot ▸ hfin.raw, fun hne => h3 (fun _ h => absurd rfl h) hfin.we (hfin.tot ▸ hne)⟩

theorem ewWrites_clean_stream (w : World) (tb : Tables) (se cc : Enveloper) (st : St) (fs : List Frame) (ds : List Bytes)
    (hb : st.rw.buf = none) (hse : st.op.serverEnveloper = some se) (hcc : st.op.clientEnveloper = some cc)
    (hok : ∀ x ∈ fs, x.ok se st.op.conf.maxMsg) (hds : ds.flatten = framesBytes fs) :
    ∃ st' e', ewWrites w tb st { initialized := true, writingEnvelope := true, remaining := 5 } ds = (st', e', false, false) ∧
      rawBytes st'.sink.items = rawBytes st.sink.items ++ respReframedAll se cc fs :=
  let ⟨st', e', h, hraw, _⟩ := ewWrites_clean_flushed w tb se cc st fs ds hb hse hcc hok hds
  ⟨st', e', h, hraw⟩

theorem ewWrite_fresh (w : World) (tb : Tables) (se : Enveloper) (st : St) (d : Bytes) (hse : st.op.serverEnveloper = some se) :
    ewWrite w tb st {} d = ewWrite w tb st { initialized := true, writingEnvelope := true, remaining := 5 } d := by
  unfold ewWrite ewInit
  simp [hse]

end Vanguard
