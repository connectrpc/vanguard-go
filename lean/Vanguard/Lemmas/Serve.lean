import Vanguard.Model.Run
import Vanguard.Lemmas.ResponseHead
/-! What every invariant of the response path uses: the frame relation `Neutral`, the functions every response goes
    through as explicit states (`reportEnd_eq`, `flushHeaders_eq`, `reportError_eq`), and the induction over handler
    scripts (`runScript_inv`). -/
namespace Vanguard

theorem St.setHdr_frame (st : St) (h : Hdr) :
    (st.setHdr h).rw = st.rw ∧ (st.setHdr h).sink.status = st.sink.status ∧ (st.setHdr h).op = st.op := by
  unfold St.setHdr; split <;> exact ⟨rfl, rfl, rfl⟩

@[simp] theorem St.hdr_setHdr (st : St) (h : Hdr) : (st.setHdr h).hdr = h := by
  unfold St.setHdr St.hdr
  split <;> simp_all

theorem St.hdr_congr_rw (st : St) (r : RW) (he : r.endWritten = st.rw.endWritten) :
    ({ st with rw := r } : St).hdr = st.hdr := by
  unfold St.hdr; simp only [he]

/-- The fields of the response writer that `Good`, `UInv`, `Ready` and `ProgInv` read (where `WriteHeader` flushes the
    head, C04 and C05 also read the end in `respMeta`: `HeaderPath` below supplies it). -/
def RW.flags (r : RW) : Bool × Bool × Bool × Bool × WK × Option Bytes :=
  (r.endWritten, r.err, r.headersFlushed, r.headersWritten, r.w, r.buf)

/-- From `a` to `b` nothing changes but the handler's header map (the client's while the RPC is open, the scratch
    map `St.scratch` afterwards), the client's body `src`, and fields of the response writer other than `RW.flags`
    (`respMeta`, `cRespComp`, `contentLen`, `statusCode`, …): what `Header().Set`, a `Read` and the assignments of
    `WriteHeader` do to the request state. -/
structure Neutral (a b : St) : Prop where
  op : b.op = a.op
  sink : b.sink = { a.sink with hdr := b.sink.hdr }
  hdr : a.rw.endWritten = true → b.sink.hdr = a.sink.hdr
  ended : b.rw.endWritten = a.rw.endWritten
  err : b.rw.err = a.rw.err
  flushed : b.rw.headersFlushed = a.rw.headersFlushed
  written : b.rw.headersWritten = a.rw.headersWritten
  wk : b.rw.w = a.rw.w
  buf : b.rw.buf = a.rw.buf

theorem Neutral.refl (a : St) : Neutral a a := ⟨rfl, rfl, fun _ => rfl, rfl, rfl, rfl, rfl, rfl, rfl⟩

theorem Neutral.trans {a b c : St} (h1 : Neutral a b) (h2 : Neutral b c) : Neutral a c :=
  ⟨h2.op.trans h1.op, by rw [h2.sink, h1.sink], fun he => (h2.hdr (h1.ended.trans he)).trans (h1.hdr he),
   h2.ended.trans h1.ended, h2.err.trans h1.err, h2.flushed.trans h1.flushed, h2.written.trans h1.written,
   h2.wk.trans h1.wk, h2.buf.trans h1.buf⟩

theorem Neutral.ite {a x y : St} (c : Prop) [Decidable c] (hx : Neutral a x) (hy : Neutral a y) :
    Neutral a (if c then x else y) := by
  split <;> assumption

theorem Neutral.rwUpdate (a : St) (r : RW) (h : r.flags = a.rw.flags) : Neutral a { a with rw := r } := by
  simp only [RW.flags, Prod.mk.injEq] at h
  obtain ⟨h1, h2, h3, h4, h5, h6⟩ := h
  exact ⟨rfl, rfl, fun _ => rfl, h1, h2, h3, h4, h5, h6⟩

theorem Neutral.src (a : St) (s : Source) : Neutral a { a with src := s } :=
  ⟨rfl, rfl, fun _ => rfl, rfl, rfl, rfl, rfl, rfl, rfl⟩

theorem St.setHdr_neutral (st : St) (h : Hdr) : Neutral st (st.setHdr h) := by
  unfold St.setHdr
  split
  · exact ⟨rfl, rfl, fun _ => rfl, rfl, rfl, rfl, rfl, rfl, rfl⟩
  · exact ⟨rfl, rfl, fun he => absurd he ‹_›, rfl, rfl, rfl, rfl, rfl, rfl⟩

theorem rwPrepareMeta_neutral {tb : Tables} {st : St} {status : Nat} {cl : Int} {clText : Bytes} {r : St × RespMeta × EndBody}
    (hx : rwPrepareMeta tb st status cl clText = r) : Neutral st r.1 := by
  subst hx
  unfold rwPrepareMeta
  -- from the result back to `st`, assignment by assignment (the flags unfolded first: `rfl` alone tries to unify the
  -- two writers, and gives up only after unfolding the whole state)
  refine .trans ?_ (.rwUpdate _ _ (by unfold RW.flags; rfl))
  refine .trans ?_ (St.setHdr_neutral _ _)
  -- with or without a `Trailer` header taken out, from the same state: one goal `?s3`
  refine .ite _ ?s3 (.trans ?s3 (St.setHdr_neutral _ _))
  refine .trans ?_ (St.setHdr_neutral _ _)
  refine .trans ?_ (.rwUpdate _ _ rfl)
  exact .ite _ (.refl st) (St.setHdr_neutral _ _)

theorem rwSetRespComp_neutral (st : St) (comp : Bytes) : Neutral st (rwSetRespComp st comp) :=
  .ite _ (.refl st) (.rwUpdate st _ rfl)

theorem transcodeStartState_neutral (st : St) (skip : Bool) : Neutral st (transcodeStartState st skip) := by
  unfold transcodeStartState
  cases skip
  · exact .rwUpdate st _ rfl
  · exact .trans (.rwUpdate st { st.rw with active := true } rfl) (.src _ _)

theorem flushHeaders_flushed (w : World) (st : St) (h : st.rw.headersFlushed = true) : flushHeaders w st = (st, false) := by
  unfold flushHeaders; simp [h]

theorem reportEnd_ended (w : World) (st : St) (e : RespEnd) (h : st.rw.endWritten = true) : reportEnd w st e = (st, false) := by
  unfold reportEnd; simp [h]

theorem rwPrepareMeta_respMeta (tb : Tables) (st : St) (status : Nat) (cl : Int) (clText : Bytes) :
    (rwPrepareMeta tb st status cl clText).1.rw.respMeta = some (rwPrepareMeta tb st status cl clText).2.1 := by
  unfold rwPrepareMeta; rfl

theorem rwSetRespComp_respMeta (st : St) (comp : Bytes) : (rwSetRespComp st comp).rw.respMeta = st.rw.respMeta := by
  unfold rwSetRespComp; split <;> rfl

/-- The trailers `reportEnd` sends with the end `e`: the end's own, or - when it has none - the
    trailers the handler stored before. -/
def effTrailers (st : St) (e : RespEnd) : Hdr :=
  match st.rw.respMeta with
  | some rm => if !rm.pendingTrailers.isEmpty && e.trailers.isEmpty then rm.pendingTrailers else e.trailers
  | none => e.trailers

/-- The header map `reportEnd` works on: pending trailer keys are taken out first. -/
def cleanedHdr (st : St) : Hdr :=
  match st.rw.respMeta with
  | some rm => (httpExtractTrailers st.sink.hdr rm.pendingTrailerKeys).2
  | none => st.sink.hdr

/-- The state in which `reportEnd` writes the end `e` of an open RPC. -/
def St.withEnd (st : St) (e : RespEnd) : St :=
  { st with sink := { st.sink with hdr := cleanedHdr st },
            rw := { st.rw with respMeta := some { (st.rw.respMeta.getD {}) with «end» := some { e with trailers := effTrailers st e } } } }

theorem reportEnd_eq (w : World) (st : St) (e : RespEnd) (hopen : st.rw.endWritten = false) :
    reportEnd w st e =
      if st.rw.headersFlushed then
        ({ st with sink := (encodeEnd st.op.cform { e with trailers := effTrailers st e } false (st.withEnd e).sink).flush,
                   rw := { st.rw with endWritten := true, err := true } }, false)
      else
        ({ (flushHeaders w (st.withEnd e)).1 with
             sink := (flushHeaders w (st.withEnd e)).1.sink.flush,
             rw := { (flushHeaders w (st.withEnd e)).1.rw with err := true } }, (flushHeaders w (st.withEnd e)).2) := by
  obtain ⟨op, src, sink, ⟨hw, cl, hfl, ew, rm, err, wk, buf, crc, srcd, act, sc⟩, scratch⟩ := st
  subst hopen
  unfold reportEnd St.withEnd effTrailers cleanedHdr writeEnd
  -- with the stored metadata, the flushed flag and the choice of trailers fixed, both sides compute to the same
  -- state; `↓reduceIte` decides each `if` before its branches are walked, and `rfl` would evaluate `flushHeaders`
  -- to get at the pair it returns
  cases rm with
  | none => cases hfl <;> simp only [Bool.false_eq_true, ↓reduceIte]
  | some rm =>
    cases hfl <;> by_cases hp : (!rm.pendingTrailers.isEmpty && e.trailers.isEmpty) = true <;>
      simp only [hp, Bool.false_eq_true, ↓reduceIte]

theorem St.withEnd_neutral (st : St) (e : RespEnd) (hopen : st.rw.endWritten = false) : Neutral st (st.withEnd e) :=
  ⟨rfl, rfl, fun he => absurd he (ne_true_of_eq_false hopen), rfl, rfl, rfl, rfl, rfl, rfl⟩

/-- The response meta data as the client's protocol handler gets it in `flushHeaders`. -/
def clientMeta (w : World) (st : St) : RespMeta :=
  { (st.rw.respMeta.getD {}) with
    codec := st.op.ccodec
    compression := st.rw.cRespComp.getD []
    acceptCompression := intersection w.knownCompression (st.rw.respMeta.getD {}).acceptCompression }

/-- The client's connection once `flushHeaders` has sent the head: the client protocol's headers,
    `WriteHeader`, and the buffered body of a response that is no error. -/
def headSink (w : World) (st : St) : Sink :=
  let r := addResponseHeaders st.op.cform (clientMeta w st) st.sink
  let k := r.2.writeHeader (r.1.getD 0)
  match st.rw.buf with
  | some b => if ((st.rw.respMeta.getD {}).end.bind (·.err)).isSome then k else k.write b
  | none => k

theorem flushHeaders_eq (w : World) (st : St) (hf : st.rw.headersFlushed = false) :
    flushHeaders w st =
      (match (st.rw.respMeta.getD {}).end with
        | none => { st with sink := headSink w st, rw := { st.rw with buf := none, headersFlushed := true } }
        | some e => { st with sink := encodeEnd st.op.cform e true (headSink w st),
                              rw := { st.rw with buf := none, endWritten := true, err := true, headersFlushed := true } },
       false) := by
  have hs := addResponseHeaders_status_isSome st.op.cform (clientMeta w st) st.sink
  -- the status and the sink `addResponseHeaders` answers with: there is a status
  rcases hr : addResponseHeaders st.op.cform (clientMeta w st) st.sink with ⟨_ | code, sink1⟩
  · rw [hr] at hs; cases hs
  unfold clientMeta at hr
  unfold flushHeaders headSink clientMeta
  simp only [hf, Bool.false_eq_true, ↓reduceIte, hr, Option.getD_some, writeEnd]
  cases (st.rw.respMeta.getD {}).end <;> rfl

theorem flushHeaders_no_panic (w : World) (st : St) : (flushHeaders w st).2 = false := by
  cases hf : st.rw.headersFlushed
  · rw [flushHeaders_eq w st hf]
  · rw [flushHeaders_flushed w st hf]

theorem reportEnd_no_panic (w : World) (st : St) (e : RespEnd) : (reportEnd w st e).2 = false := by
  cases ho : st.rw.endWritten
  · rw [reportEnd_eq w st e ho]
    split
    · rfl
    · exact flushHeaders_no_panic w _
  · rw [reportEnd_ended w st e ho]

/-- Reporting an error is reporting an end: the branch of `reportError` in which `httpStatusCodeFromRPC` has no
    answer is dead.  (A Go error that is no `connect.Error` is reported as code 2, `unknown`, with HTTP 502.) -/
theorem reportError_eq (w : World) (st : St) (err : Err) :
    ∃ e : RespEnd, reportError w st err = reportEnd w st e ∧
      e.err = some (genErr (match err with | .rpc code => code | _ => 2)) := by
  cases err
  case rpc code =>
    have h := httpStatusFromRPC_isSome code
    unfold reportError
    dsimp only
    cases hs : httpStatusFromRPC code with
    | none => rw [hs] at h; cases h
    | some http => exact ⟨{ err := some (genErr code), httpCode := http }, rfl, rfl⟩
  all_goals exact ⟨{ err := some (genErr 2), httpCode := 502 }, rfl, rfl⟩

theorem reportError_no_panic (w : World) (st : St) (err : Err) : (reportError w st err).2 = false := by
  obtain ⟨e, h, _⟩ := reportError_eq w st err
  rw [h]; exact reportEnd_no_panic w st e

theorem writeDown_no_panic (w : World) (st : St) (b : Bytes) : (writeDown w st b).2.2 = false := by
  fun_cases writeDown w st b
  · exact (‹reportError w st _ = _› ▸ reportError_no_panic w st _ :)
  · rfl
  · rfl

theorem handleEndMessage_no_panic (w : World) (tb : Tables) (st : St) (c : Bool) (d : Bytes) (r : Bool) :
    (handleEndMessage w tb st c d r).2.2 = false := by
  fun_cases handleEndMessage w tb st c d r
  case case1 | case3 => exact reportError_no_panic w st _
  case case2 => rfl
  case case4 => exact reportEnd_no_panic w st _

/-- The `WriteHeader` that `Write` and `Close` do first is the explicit one (which does nothing the
    second time). -/
theorem implicitHeader_eq (w : World) (tb : Tables) (st : St) (c : Nat) :
    (if st.rw.headersWritten = true then (st, false) else rwWriteHeader w tb st c) = rwWriteHeader w tb st c := by
  split
  next h => unfold rwWriteHeader; rw [if_pos h]
  · rfl

/-- `s` is the state in which a first `WriteHeader c` on the open response `st` answers: `st` with the call recorded,
    after some of the assignments that come before the answer. -/
inductive Prepared (tb : Tables) (c : Nat) (st : St) : St → Prop
  | start : st.rw.headersWritten = false → st.rw.endWritten = false →
      Prepared tb c st { st with rw := { st.rw with headersWritten := true, statusCode := c } }
  | head {s : St} (cl : Int) (t : Bytes) : Prepared tb c st s → Prepared tb c st (rwPrepareMeta tb s c cl t).1
  | comp {s : St} (z : Bytes) : Prepared tb c st s → Prepared tb c st (rwSetRespComp s z)
  | same {s : St} (b : Bool) : Prepared tb c st s → Prepared tb c st { s with rw := { s.rw with sameRespCodec := b } }

section
variable {w : World} {tb : Tables} {c : Nat} {st s : St}

theorem Prepared.neutral (p : Prepared tb c st s) :
    Neutral { st with rw := { st.rw with headersWritten := true, statusCode := c } } s := by
  induction p with
  | start => exact .refl _
  | head cl t _ ih => exact ih.trans (rwPrepareMeta_neutral rfl)
  | comp z _ ih => exact ih.trans (rwSetRespComp_neutral _ z)
  | same b _ ih => exact ih.trans (.rwUpdate _ _ rfl)

theorem Prepared.before (p : Prepared tb c st s) : st.rw.headersWritten = false ∧ st.rw.endWritten = false := by
  induction p with
  | start hw ho => exact ⟨hw, ho⟩
  | _ => assumption

/-- What `WriteHeader c` returns for `st`, path by path.  `again`: a second call; `ended`: after the end of the RPC only
    the call is recorded; `error`: bad `Content-Length`, unknown compression, or a codec that is not the backend's.
    The backend's head holds the end of the RPC, and an error body follows (`errorBody`: it will be collected) or nothing
    does (`trailersOnly`: the head goes out, with the end).  A body follows, behind a head that has to wait because the
    client's protocol wants the end in it (`buffered`), or that goes out now (`streaming`).
    Each invariant of the response path is checked against these seven results; `Prepared.neutral` covers the
    assignments before them. -/
inductive HeaderPath (w : World) (tb : Tables) (c : Nat) (st : St) : St × Bool → Prop
  | again : st.rw.headersWritten = true → HeaderPath w tb c st (st, false)
  | ended : st.rw.endWritten = true →
      HeaderPath w tb c st ({ st with rw := { st.rw with headersWritten := true, statusCode := c } }, false)
  | error {s : St} : Prepared tb c st s → HeaderPath w tb c st (reportError w s .other)
  | errorBody {s : St} (eb : EndBody) : Prepared tb c st s →
      HeaderPath w tb c st (rwSetWriter s (.errorWriter (some []) eb), false)
  | trailersOnly {s : St} {e : RespEnd} : Prepared tb c st s → (s.rw.respMeta.getD {}).end = some e →
      HeaderPath w tb c st (rwSetWriter (flushHeaders w s).1 .noBody, (flushHeaders w s).2)
  | buffered {s : St} {b : Bool} : Prepared tb c st s →
      HeaderPath w tb c st
        (rwSetWriter { s with rw := { s.rw with buf := some [] } } (if b then .enveloping {} else .transforming {}), false)
  | streaming {s : St} {b : Bool} : Prepared tb c st s → s.op.cform.endMustBeInHeaders = false →
      (s.rw.respMeta.getD {}).end = none →
      HeaderPath w tb c st
        (rwSetWriter (flushHeaders w s).1 (if b then .enveloping {} else .transforming {}), (flushHeaders w s).2)

theorem rwStartBody_path (p : Prepared tb c st s) (he : (s.rw.respMeta.getD {}).end = none) :
    HeaderPath w tb c st (rwStartBody w s) := by
  have p2 := p.same (s.op.ccodec == s.op.scodec)
  unfold rwStartBody
  dsimp only
  split
  · exact .buffered p2
  · exact .streaming p2 (Bool.eq_false_iff.2 ‹_›) he

theorem rwWriteHeader_path (w : World) (tb : Tables) (st : St) (c : Nat) :
    HeaderPath w tb c st (rwWriteHeader w tb st c) := by
  fun_cases rwWriteHeader w tb st c
  case case1 h => exact .again h
  case case2 he => exact .ended he
  case case3 hw _ ho _ _ _ => exact .error (.start (by simpa using hw) (by simpa using ho))
  case case4 hw st1 ho clText _ cl _ s0 rm eb x =>
    have p : Prepared tb c st s0 := by
      have := Prepared.head cl clText (.start (by simpa using hw) (by simpa using ho) : Prepared tb c st _)
      rwa [x] at this
    have hrm : s0.rw.respMeta = some rm := by
      have := rwPrepareMeta_respMeta tb st1 c cl clText
      rwa [x] at this
    fun_cases rwChooseWriter w s0 rm eb
    case case1 => exact .error p
    case case2 comp _ _ _ _ _ => exact .errorBody eb (.comp comp p)
    case case3 comp _ _ e he _ =>
      exact .trailersOnly (.comp comp p) (by rw [rwSetRespComp_respMeta, hrm]; exact he)
    case case4 comp _ _ _ _ => exact .error (.comp comp p)
    case case5 comp _ _ he _ => exact rwStartBody_path (.comp comp p) (by rw [rwSetRespComp_respMeta, hrm]; exact he)

end

section Script
variable {w : World} {tb : Tables} {pl : HandlePlan} {P : Flight → Prop}

theorem flightReadN_inv (read : ∀ f n, P f → P (f.read w pl n).2.2) (k buf : Nat) (capped : Bool)
    (fuel : Nat) (f : Flight) (got : Nat) (rd : Bytes) (re : Option Err) (h : P f) :
    P (flightReadN w pl k buf capped fuel f got rd re).1 := by
  fun_induction flightReadN w pl k buf capped fuel f got rd re
  case case1 | case2 => exact h       -- out of fuel; enough read, or a panic
  -- one `Read`: it ends the loop with an error, or the loop goes on
  all_goals have h' := (‹Flight.read w pl _ _ = _› ▸ read _ _ h :)
  case case3 => exact h'
  case case4 ih => exact ih h'

theorem flightReadAll_inv (read : ∀ f n, P f → P (f.read w pl n).2.2) (buf : Nat)
    (fuel : Nat) (f : Flight) (rd : Bytes) (h : P f) : P (flightReadAll w pl buf fuel f rd).1 := by
  fun_induction flightReadAll w pl buf fuel f rd
  case case1 | case2 => exact h
  all_goals have h' := (‹Flight.read w pl _ _ = _› ▸ read _ _ h :)
  case case3 => exact h'
  case case4 ih => exact ih h'

theorem runScript_inv
    (read : ∀ f n, P f → P (f.read w pl n).2.2)
    (setHdr : ∀ f h, P f → P { f with st := f.st.setHdr h })
    (writeHeader : ∀ f c, P f →
      P { f with st := (rwWriteHeader w tb f.st c).1, panic := f.panic || (rwWriteHeader w tb f.st c).2 })
    (write : ∀ f d, P f → P { f with st := (rwWrite w tb f.st d).1, panic := f.panic || (rwWrite w tb f.st d).2.2 })
    (close : ∀ f, P f → P f.close)
    (script : List BOp) (total0 : Nat) (f : Flight) (h : P f) : P (runScript w tb pl script total0 f).1 := by
  unfold runScript
  -- The fuel `… + 1048576` of `readall` must be a variable before the kernel meets it: unfolding
  -- `flightReadAll` on `n + 1048576` makes the kernel peel the numeral in unary (a minute per unfolding).
  -- `generalize` would not do: its abstraction is beta-reduced away before the kernel sees the term.
  obtain ⟨K, hK⟩ : ∃ K, K = 1048576 := ⟨_, rfl⟩
  rw [← hK]
  generalize ({} : BackendObs) = b
  induction script generalizing f b with
  | nil => exact h
  | cons op ops ih =>
    rw [List.foldl_cons]
    refine ih _ ?_ _
    show P (if f.panic = true then (f, b) else _).1
    split
    · exact h
    · cases op
      case readn | readfix => exact flightReadN_inv read _ _ _ _ _ _ _ _ h
      case readall => exact flightReadAll_inv read _ _ _ _ h
      case sethdr | addhdr => exact setHdr _ _ h
      case status => exact writeHeader _ _ h
      case write => exact write _ _ h
      case flush => exact h   -- a no-op in the model: the writers flush after every message themselves
      case close => exact close _ h

end Script

end Vanguard
