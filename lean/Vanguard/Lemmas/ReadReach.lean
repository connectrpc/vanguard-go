import Vanguard.Lemmas.Serve
/-!
  # What the request readers can do to the request state

  The adapters on the request side (`envelopingReader`, `transformingReader`, the message reader they
  share) change the request state in two ways only: they replace the client's body (by what is left of
  it; `RdReach.src` allows any), and they report an error through the response writer.  `RdReach w a b`
  is the closure of those two steps; every reader function is shown to stay inside it, for any `Read`
  size and any body.  So what survives `Neutral` steps and `reportError` survives every read
  (`RdReach.inv`), and - with `WriteHeader` and `Write` - every handler script (`runScript_inv_st`, the
  entry point for an invariant of the request state over whole runs).

  As in `Lemmas/WriteReach.lean`, the lemmas about a function take the call as an equation `f … = r`.
-/
namespace Vanguard

inductive RdReach (w : World) : St → St → Prop
  | refl (a : St) : RdReach w a a
  | src {a b : St} (h : RdReach w a b) (s : Source) : RdReach w a { b with src := s }
  | err {a b : St} (h : RdReach w a b) (e : Err) : RdReach w a (reportError w b e).1

theorem RdReach.trans {w : World} {a b c : St} (h1 : RdReach w a b) (h2 : RdReach w b c) : RdReach w a c := by
  induction h2 with
  | refl => exact h1
  | src _ s ih => exact .src ih s
  | err _ e ih => exact .err ih e

theorem RdReach.srcUpdate (w : World) (st : St) (s : Source) : RdReach w st { st with src := s } := .src (.refl st) s
theorem RdReach.reportError (w : World) (st : St) (e : Err) : RdReach w st (reportError w st e).1 := .err (.refl st) e

variable {w : World} {pl : HandlePlan}

/-- The readers report an error themselves only where a response writer exists (`report`). -/
theorem RdReach.report_eq {a b : St} {e : Err} {report : Bool} {r : St × Bool} (h : RdReach w a b)
    (hx : (if report = true then Vanguard.reportError w b e else (b, false)) = r) : RdReach w a r.1 := by
  subst hx
  split
  · exact h.err e
  · exact h

theorem hardLimitRead_reach {st : St} {limit read n : Nat} {report : Bool} {r : Bytes × Option Err × Nat × St × Bool}
    (hx : hardLimitRead w st limit read n report = r) : RdReach w st r.2.2.2.1 := by
  subst hx
  fun_cases hardLimitRead w st limit read n report
  · exact .refl st
  · exact (RdReach.srcUpdate w st _).report_eq ‹_›
  · exact .srcUpdate w st _

theorem copyAllLimited_reach {report : Bool} {limit fuel : Nat} {st : St} {read : Nat} {acc : Bytes}
    {r : Bytes × Option Err × St × Bool} (hx : copyAllLimited w report limit fuel st read acc = r) :
    RdReach w st r.2.2.1 := by
  subst hx
  fun_induction copyAllLimited w report limit fuel st read acc
  case case1 => exact .refl _
  all_goals have h1 := hardLimitRead_reach ‹_›
  case case3 ih => exact h1.trans ih
  all_goals exact h1

theorem readRequestMessage_reach {st : St} {report : Bool} {r : Except Err (Bytes × Bool) × St × Bool}
    (hx : readRequestMessage w st report = r) : RdReach w st r.2.1 := by
  subst hx
  fun_cases readRequestMessage w st report
  case case1 | case8 => exact .srcUpdate w st _                                -- no envelope arrived; not five bytes (cannot happen)
  case case2 | case3 | case4 => exact (RdReach.srcUpdate w st _).report_eq rfl -- an envelope that is rejected
  case case5 | case6 | case7 => exact .src (.srcUpdate w st _) _               -- the payload was read, or cut
  case case9 => exact (RdReach.refl st).report_eq ‹_›                          -- no envelopes: the declared length is above the limit
  all_goals exact copyAllLimited_reach ‹_›                                     -- no envelopes: the whole body

theorem trRead_reach {fuel : Nat} {st : St} {r : TR} {n : Nat} {x : Bytes × Option Err × St × TR × Bool}
    (hx : trRead w pl fuel st r n = x) : RdReach w st x.2.2.1 := by
  subst hx
  fun_induction trRead w pl fuel st r n
  case case1 | case2 | case3 | case4 => exact .refl _   -- out of fuel, latched, served from what is in hand
  -- the next message is read: a panic, or the body's end or an error; a message that does not convert; or go on
  all_goals have h1 := readRequestMessage_reach ‹_›
  case case5 | case6 => exact h1
  case case7 hx => exact (hx ▸ h1.err _ :)
  case case8 ih => exact h1.trans ih

theorem erCurRead_reach {st : St} {cur : RCur} {n : Nat} {x : Bytes × Option Err × St × RCur × Bool}
    (hx : erCurRead w st cur n = x) : RdReach w st x.2.2.1 := by
  subst hx
  fun_cases erCurRead w st cur n
  case case2 | case7 => exact .srcUpdate w st _          -- a `Read` on the client's body
  case case3 => exact hardLimitRead_reach ‹_›            -- through the reader that enforces the limit
  all_goals exact .refl st

theorem erPrepareNext_reach {st : St} {r : ER} {x : Option Err × St × ER × Bool}
    (hx : erPrepareNext w st r = x) : RdReach w st x.2.1 := by
  subst hx
  fun_cases erPrepareNext w st r
  -- neither side has envelopes; the one message of a client without envelopes was read before
  case case1 | case6 => exact .refl st
  case case2 => exact .reportError w st _       -- no envelopes: the declared length is above the limit
  -- a message is announced (`finish`): of the declared length; the whole body, buffered; what the client's envelope says
  case case3 finish _ _ _ _ _ _ _ => dsimp only [finish]; split <;> exact .refl st
  case case5 finish _ _ _ _ _ _ _ _ _ x => dsimp only [finish]; split <;> exact copyAllLimited_reach x
  case case9 finish _ _ _ _ _ _ _ _ _ _ _ _ => dsimp only [finish]; split <;> exact .srcUpdate w st _
  case case4 x => exact copyAllLimited_reach x   -- no envelopes, no declared length: reading the whole body fails
  case case7 | case10 => exact .srcUpdate w st _   -- no envelope arrived; not five bytes (cannot happen)
  case case8 x _ => exact (x ▸ RdReach.err (.srcUpdate w st _) (.rpc 3) :)   -- the client's envelope is rejected

def phaseSt (x : Sum (Bytes × Option Err × St × ER × Bool) (St × ER)) : St :=
  match x with
  | .inl res => res.2.2.1
  | .inr y => y.1

theorem erPhase1_reach {st : St} {r : ER} {n : Nat} {x : Sum (Bytes × Option Err × St × ER × Bool) (St × ER)}
    (hx : erPhase1 w st r n = x) : RdReach w st (phaseSt x) := by
  subst hx
  fun_cases erPhase1 w st r n
  case case1 => exact .refl st
  all_goals exact erCurRead_reach ‹_›

theorem erPhase2_reach {st : St} {r : ER} {n : Nat} {x : Bytes × Option Err × St × ER × Bool}
    (hx : erPhase2 w st r n = x) : RdReach w st x.2.2.1 := by
  subst hx
  fun_cases erPhase2 w st r n
  all_goals have h := erPrepareNext_reach ‹erPrepareNext w st r = _›
  case case4 =>
    have h2 := erCurRead_reach ‹_›
    exact h.trans h2
  all_goals exact h

theorem erRead_reach {st : St} {r : ER} {n : Nat} {x : Bytes × Option Err × St × ER × Bool}
    (hx : erRead w st r n = x) : RdReach w st x.2.2.1 := by
  subst hx
  fun_cases erRead w st r n
  case case1 | case2 => exact .refl st
  case case3 hx => exact erPhase1_reach hx
  case case4 hx => exact (erPhase1_reach hx).trans (erPhase2_reach rfl)

theorem Flight.read_reach (w : World) (pl : HandlePlan) (f : Flight) (n : Nat) : RdReach w f.st (f.read w pl n).2.2.st := by
  fun_cases Flight.read w pl f n
  · exact .refl _
  · exact .srcUpdate w _ _
  · exact erRead_reach ‹_›
  · exact trRead_reach ‹_›

theorem RdReach.inv {w : World} {P : St → Prop} (neutral : ∀ {a b}, Neutral a b → P a → P b)
    (err : ∀ st e, P st → P (Vanguard.reportError w st e).1) {a b : St} (r : RdReach w a b) (h : P a) : P b := by
  induction r with
  | refl => exact h
  | src _ s ih => exact neutral (.src _ s) ih
  | err _ e ih => exact err _ e ih

theorem runScript_inv_st {w : World} {tb : Tables} {pl : HandlePlan} {P : St → Prop}
    (neutral : ∀ {a b}, Neutral a b → P a → P b)
    (err : ∀ st e, P st → P (reportError w st e).1)
    (writeHeader : ∀ st c, P st → P (rwWriteHeader w tb st c).1)
    (write : ∀ st d, P st → P (rwWrite w tb st d).1)
    (script : List BOp) (total0 : Nat) (f : Flight) (h : P f.st) : P (runScript w tb pl script total0 f).1.st :=
  runScript_inv (P := fun f => P f.st) (fun f n => RdReach.inv neutral err (Flight.read_reach w pl f n))
    (fun _ _ => neutral (St.setHdr_neutral _ _)) (fun _ => writeHeader _) (fun _ => write _)
    (fun _ => id)  -- closing the request body sets the flight's `closed` flag only
    script total0 f h

end Vanguard
