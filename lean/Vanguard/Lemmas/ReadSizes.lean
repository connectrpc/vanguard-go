import Vanguard.Model.Handle
import Vanguard.Lemmas.Envelope
/-!
  The bytes a backend handler reads do not depend on its read-buffer sizes (C08), for the
  re-encoding reader (`transformingReader`).

  `Stream st cf pd o e`: from request state `st`, with `pd` the bytes already prepared but not yet
  handed out and `cf` = "the first message was consumed", the handler will be given exactly the bytes
  `o` and then the error `e` (io.EOF included).
-/
namespace Vanguard

/-- Bytes prepared (rest of the envelope, rest of the converted message) and not yet handed out. -/
def TR.prepared (r : TR) : Bytes :=
  (if r.envRemain > 0 then r.env.drop (5 - r.envRemain) else []) ++ r.buffer.getD []

structure TR.WF (r : TR) : Prop where
  le : r.envRemain ≤ 5
  len : r.envRemain > 0 → r.env.length = 5

theorem trPrepare_op (w : World) (pl : HandlePlan) (st st' : St) (h : st'.op = st.op) (data : Bytes) (wc : Bool) :
    trPrepare w pl st' data wc = trPrepare w pl st data wc := by
  unfold trPrepare; rw [h]

-- `Stream` is indexed by the request state, pieces of the client's body included: it is free of the handler's read sizes, not
-- (by itself) of the body's segmentation; it reads the state through `st.op` and `readRequestMessage w st true` only
inductive Stream (w : World) (pl : HandlePlan) : St → Bool → Bytes → Bytes → Err → Prop
  /-- prepared bytes are handed out first -/
  | pend (st : St) (cf : Bool) (pd o : Bytes) (e : Err) : pd ≠ [] → Stream w pl st cf [] o e → Stream w pl st cf pd (pd ++ o) e
  /-- nothing prepared: the next message is read and prepared -/
  | fetch (st : St) (cf : Bool) (o : Bytes) (e : Err) (data : Bytes) (wc : Bool) (out env : Bytes) :
      (readRequestMessage w st true).2.2 = false →
      trNext pl (readRequestMessage w st true).2.1 cf (readRequestMessage w st true).1 = .ok (data, wc) →
      trPrepare w pl (readRequestMessage w st true).2.1 data wc = .ok (out, env) →
      Stream w pl (readRequestMessage w st true).2.1 true (env ++ out) o e → Stream w pl st cf [] o e
  /-- ... or the body has ended / is cut / the message is refused -/
  | stop (st : St) (cf : Bool) (e : Err) :
      (readRequestMessage w st true).2.2 = false →
      trNext pl (readRequestMessage w st true).2.1 cf (readRequestMessage w st true).1 = .error e →
      Stream w pl st cf [] [] e
  /-- ... or the message is read but cannot be prepared for the backend (`trPrepare` fails: conversion, size limit) -/
  | refuse (st : St) (cf : Bool) (e : Err) (data : Bytes) (wc : Bool) :
      (readRequestMessage w st true).2.2 = false →
      trNext pl (readRequestMessage w st true).2.1 cf (readRequestMessage w st true).1 = .ok (data, wc) →
      trPrepare w pl (readRequestMessage w st true).2.1 data wc = .error e →
      Stream w pl st cf [] [] e

/-- The stream is unique: which rule applies, and with which message, is decided by `pd` and by what the
    message reader and the conversion return. -/
theorem Stream.det {w : World} {pl : HandlePlan} {st : St} {cf : Bool} {pd o e} (h1 : Stream w pl st cf pd o e) :
    ∀ {o' e'}, Stream w pl st cf pd o' e' → o = o' ∧ e = e' := by
  induction h1 with
  | pend st cf pd o e hne _ ih =>
    intro o' e' h2
    cases h2 with
    | pend _ _ _ o2 _ _ h2' => obtain ⟨rfl, rfl⟩ := ih h2'; exact ⟨rfl, rfl⟩
    | _ => exact absurd rfl hne
  | fetch st cf o e data wc out env hp hn hpr _ ih =>
    intro o' e' h2
    cases h2 with
    | pend _ _ _ _ _ hne _ => exact absurd rfl hne
    | fetch _ _ _ _ _ _ _ _ _ hn2 hpr2 h2' =>
      cases hn.symm.trans hn2
      cases hpr.symm.trans hpr2
      exact ih h2'
    | stop _ _ _ _ hn2 => cases hn.symm.trans hn2
    | refuse _ _ _ _ _ _ hn2 hpr2 =>
      cases hn.symm.trans hn2
      cases hpr.symm.trans hpr2
  | stop st cf e hp hn =>
    intro o' e' h2
    cases h2 with
    | pend _ _ _ _ _ hne _ => exact absurd rfl hne
    | fetch _ _ _ _ _ _ _ _ _ hn2 _ _ | refuse _ _ _ _ _ _ hn2 _ => cases hn.symm.trans hn2
    | stop _ _ _ _ hn2 => cases hn.symm.trans hn2; exact ⟨rfl, rfl⟩
  | refuse st cf e data wc hp hn hpr =>
    intro o' e' h2
    cases h2 with
    | pend _ _ _ _ _ hne _ => exact absurd rfl hne
    | fetch _ _ _ _ _ _ _ _ _ hn2 hpr2 _ =>
      cases hn.symm.trans hn2
      cases hpr.symm.trans hpr2
    | stop _ _ _ _ hn2 => cases hn.symm.trans hn2
    | refuse _ _ _ _ _ _ hn2 hpr2 =>
      cases hn.symm.trans hn2
      cases hpr.symm.trans hpr2
      exact ⟨rfl, rfl⟩

theorem Stream.prepend {w : World} {pl : HandlePlan} {st : St} {cf : Bool} {pd o : Bytes} {e : Err} (b : Bytes)
    (hb : b ≠ []) (h : Stream w pl st cf pd o e) : Stream w pl st cf (b ++ pd) (b ++ o) e := by
  by_cases hpd : pd = []
  · subst hpd
    rw [List.append_nil]
    exact .pend st cf b o e hb h
  · cases h with
    | pend _ _ _ o2 _ _ h' =>
      rw [← List.append_assoc]
      exact .pend st cf (b ++ pd) o2 e (fun h => hb (List.append_eq_nil_iff.mp h).1) h'
    | _ => exact absurd rfl hpd

theorem requestEnvelope_ok {o : Op} {out : Bytes} {wc : Bool} {env : Bytes} (h : requestEnvelope o out wc = .ok env) :
    out.length ≤ o.conf.maxMsg ∧ env = match o.serverEnveloper with
      | none => []
      | some se => se.encode { compressed := wc && o.sReqComp.isSome, length := out.length } := by
  revert h
  fun_cases requestEnvelope o out wc
  case case1 => nofun
  case case2 hle hse | case3 hle se hse => rintro ⟨⟩; exact ⟨Nat.le_of_not_gt hle, by rw [hse]⟩

theorem trPrepare_ok {w : World} {pl : HandlePlan} {st : St} {data : Bytes} {wc : Bool} {out env : Bytes}
    (h : trPrepare w pl st data wc = .ok (out, env)) : requestEnvelope st.op out wc = .ok env := by
  unfold trPrepare at h
  cases h1 : prepareRequestMessage w st.op pl data wc with
  | error e => rw [h1] at h; cases h
  | ok o1 =>
    rw [h1] at h
    cases h2 : requestEnvelope st.op o1 wc with
    | error e => simp only [Except.bind, h2, Except.map] at h; cases h
    | ok ev => simp only [Except.bind, h2, Except.map] at h; cases h; exact h2

theorem trPrepare_env_len (w : World) (pl : HandlePlan) (st : St) (data : Bytes) (wc : Bool) (out env : Bytes)
    (h : trPrepare w pl st data wc = .ok (out, env)) : env = [] ∨ env.length = 5 := by
  obtain ⟨-, rfl⟩ := requestEnvelope_ok (trPrepare_ok h)
  cases st.op.serverEnveloper with
  | none => exact .inl rfl
  | some se => exact .inr rfl

/-- The outcome of one `Read(n)` as far as the stream is concerned. -/
def StepOk (w : World) (pl : HandlePlan) (st : St) (r : TR) (res : Bytes × Option Err × St × TR × Bool) : Prop :=
  res.2.2.2.2 = false →
    (res.2.1 = none → res.2.2.2.1.WF ∧ res.2.2.2.1.err = none ∧
      ∀ o e, Stream w pl res.2.2.1 res.2.2.2.1.consumedFirst res.2.2.2.1.prepared o e →
             Stream w pl st r.consumedFirst r.prepared (res.1 ++ o) e) ∧
    (∀ e, res.2.1 = some e → res.1 = [] ∧ Stream w pl st r.consumedFirst r.prepared [] e)

theorem prepared_fresh (r : TR) (out env : Bytes) (hb : r.buffer = some out) (he : r.env = env)
    (hr : r.envRemain = env.length) (hl : env = [] ∨ env.length = 5) : r.prepared = env ++ out ∧ r.WF := by
  unfold TR.prepared
  rcases hl with h0 | h5
  · subst h0
    simp only [List.length_nil] at hr
    refine ⟨by simp [hr, hb], ⟨Nat.le_trans (Nat.le_of_eq hr) (Nat.zero_le 5), fun h => absurd (hr ▸ h) (Nat.lt_irrefl 0)⟩⟩
  · rw [h5] at hr
    refine ⟨by simp [hr, hb, he], ⟨Nat.le_of_eq hr, fun _ => by rw [he]; exact h5⟩⟩

theorem StepOk.hand {w : World} {pl : HandlePlan} {st : St} {r r' : TR} {b : Bytes} (hwf : r'.WF) (herr : r'.err = none)
    (hcf : r'.consumedFirst = r.consumedFirst) (hb : b ≠ []) (hp : r.prepared = b ++ r'.prepared) :
    StepOk w pl st r (b, none, st, r', false) :=
  fun _ => ⟨fun _ => ⟨hwf, herr, fun o e hs => by rw [hp, ← hcf]; exact Stream.prepend b hb hs⟩, nofun⟩

theorem StepOk.fail {w : World} {pl : HandlePlan} {st st' : St} {r r' : TR} {e : Err} {p : Bool}
    (hs : Stream w pl st r.consumedFirst r.prepared [] e) : StepOk w pl st r ([], some e, st', r', p) :=
  fun _ => ⟨nofun, fun _ he => Option.some.inj he ▸ ⟨rfl, hs⟩⟩

/-- The part of `Read(n)` that takes from the converted message what fits after `offset` bytes of envelope.
    Last conjunct: nothing was handed out although something was asked for, so the buffer is empty. -/
theorem take_buffer {r1 : TR} {n offset : Nat} {b : Bytes} {r2 : TR}
    (x : (match r1.buffer with
      | some buf => if n > offset then (buf.take (n - offset), { r1 with buffer := some (buf.drop (n - offset)) }) else ([], r1)
      | none => ([], r1)) = (b, r2)) :
    r1.buffer.getD [] = b ++ r2.buffer.getD [] ∧ r2.consumedFirst = r1.consumedFirst ∧ r2.err = r1.err ∧
    r2.envRemain = r1.envRemain ∧ (offset + b.length = 0 → 0 < n → r1.buffer.getD [] = []) := by
  split at x
  next buf hb =>
    rw [hb]
    by_cases hgt : n > offset
    · rw [if_pos hgt] at x
      cases x
      refine ⟨(List.take_append_drop ..).symm, rfl, rfl, rfl, fun h _ => ?_⟩
      -- nothing of `buf` was taken although `n - offset` is positive: `buf` is empty
      have h := List.eq_nil_of_length_eq_zero (Nat.eq_zero_of_add_eq_zero_left h)
      exact (List.take_eq_nil_iff.mp h).resolve_left (Nat.ne_of_gt (Nat.sub_pos_of_lt hgt))
    · rw [if_neg hgt] at x
      cases x
      exact ⟨by rw [hb]; rfl, rfl, rfl, rfl, fun h hn =>
        absurd (Nat.lt_of_le_of_lt (Nat.le_of_eq (Nat.eq_zero_of_add_eq_zero_right h)) hn) hgt⟩
  next hb => cases x; rw [hb]; exact ⟨rfl, rfl, rfl, rfl, fun _ _ => rfl⟩

theorem TR.prepared_nil {r : TR} {k : Nat} (hb : r.buffer.getD [] = [])
    (he : (if r.envRemain > 0 then r.env.drop (5 - r.envRemain) else []).length + k = 0) : r.prepared = [] := by
  rw [TR.prepared, hb, List.append_nil]
  exact List.eq_nil_of_length_eq_zero (Nat.eq_zero_of_add_eq_zero_right he)

theorem StepOk.fetch {w : World} {pl : HandlePlan} {st s1 : St} {r r' : TR} {res0 : Except Err (Bytes × Bool)}
    {data out env : Bytes} {wc : Bool} {res : Bytes × Option Err × St × TR × Bool}
    (x : readRequestMessage w st true = (res0, s1, false)) (hn : trNext pl s1 r.consumedFirst res0 = .ok (data, wc))
    (hpr : trPrepare w pl s1 data wc = .ok (out, env)) (hprep : r.prepared = [])
    (hcf : r'.consumedFirst = true) (hp' : r'.prepared = env ++ out) (h : StepOk w pl s1 r' res) : StepOk w pl st r res := by
  have hs : ∀ o e, Stream w pl s1 r'.consumedFirst r'.prepared o e → Stream w pl st r.consumedFirst r.prepared o e := by
    intro o e hs
    rw [hcf, hp'] at hs
    rw [hprep]
    exact Stream.fetch st r.consumedFirst o e data wc out env (by rw [x]) (by rw [x]; exact hn) (by rw [x]; exact hpr)
      (by rw [x]; exact hs)
  exact fun hpp => ⟨fun hnone => ⟨((h hpp).1 hnone).1, ((h hpp).1 hnone).2.1, fun o e h' => hs _ e (((h hpp).1 hnone).2.2 o e h')⟩,
    fun e he => ⟨((h hpp).2 e he).1, hs _ e ((h hpp).2 e he).2⟩⟩

theorem trRead_step (w : World) (pl : HandlePlan) (F : Nat) (st : St) (r : TR) (n : Nat)
    (hn : 1 ≤ n) (hwf : r.WF) (herr : r.err = none) : StepOk w pl st r (trRead w pl F st r n) := by
  fun_induction trRead w pl F st r n
  case case1 => exact fun h => nomatch h       -- out of fuel: the panic flag is set
  case case2 x => rw [herr] at x; cases x      -- a latched error: `herr` says there is none
  case case3 fuel st r n _ hlt =>
    -- part of the envelope
    have hpos : r.envRemain > 0 := Nat.zero_lt_of_lt hlt
    have h5 := hwf.len hpos
    have hle := hwf.le
    refine StepOk.hand ⟨Nat.le_trans (Nat.sub_le ..) hle, fun _ => h5⟩ herr rfl (fun h => ?_) ?_
    · -- neither is `n` zero nor has the envelope been handed out already
      rcases List.take_eq_nil_iff.mp h with h | h
      · exact absurd h (Nat.ne_of_gt hn)
      · exact absurd (Nat.le_trans (Nat.le_of_eq h5.symm) (List.drop_eq_nil_iff.mp h))
          (Nat.not_le.mpr (Nat.sub_lt (Nat.succ_pos 4) hpos))
    · rw [TR.prepared, TR.prepared, if_pos hpos, ← List.append_assoc]
      exact congrArg (· ++ _) (pending_split r.env r.envRemain n h5 hle (Nat.le_of_lt hlt))
  case case4 fuel st r n _ hge envPart offset r1 b r2 xb hpos =>
    -- the rest of the envelope and as much of the message as fits
    obtain ⟨hbuf, hcf, he, hrem, -⟩ := take_buffer xb
    have h0 : ¬ r2.envRemain > 0 := by rw [hrem]; exact Nat.lt_irrefl 0
    refine StepOk.hand ⟨Nat.le_trans (Nat.le_of_not_gt h0) (Nat.zero_le 5), fun h => absurd h h0⟩ (he.trans herr) hcf ?_ ?_
    · exact fun h => absurd hpos (by change ¬ envPart.length + b.length > 0; rw [← List.length_append, h]; exact Nat.lt_irrefl 0)
    · rw [TR.prepared, TR.prepared, if_neg h0, List.nil_append, List.append_assoc, ← hbuf]
  case case5 => exact fun h => nomatch h       -- nothing left to hand out, and the message reader panicked
  case case6 fuel st r n _ hge envPart offset r1 b r2 xb hnone res s1 p x hp e hnext =>
    -- the body has ended, is cut, or the message is refused
    obtain ⟨-, hcf, -, -, hnil⟩ := take_buffer xb
    have hz := Nat.eq_zero_of_not_pos hnone
    obtain rfl := (Bool.not_eq_true p).mp hp
    refine StepOk.fail ?_
    rw [TR.prepared_nil (r := r) (hnil hz hn) hz]
    exact Stream.stop st r.consumedFirst e (by rw [x]) (by rw [x, ← hcf]; exact hnext)
  case case7 fuel st r n _ hge envPart offset r1 b r2 xb hnone res s1 p x hp data wc hnext r3 e hpr s2 p2 x2 =>
    -- the message cannot be converted
    obtain ⟨-, hcf, -, -, hnil⟩ := take_buffer xb
    have hz := Nat.eq_zero_of_not_pos hnone
    obtain rfl := (Bool.not_eq_true p).mp hp
    refine StepOk.fail ?_
    rw [TR.prepared_nil (r := r) (hnil hz hn) hz]
    exact Stream.refuse st r.consumedFirst e data wc (by rw [x]) (by rw [x, ← hcf]; exact hnext) (by rw [x]; exact hpr)
  case case8 fuel st r n _ hge envPart offset r1 b r2 xb hnone res s1 p x hp data wc hnext r3 out env hpr ih =>
    -- on to the `Read` from the freshly prepared message
    obtain ⟨-, hcf, he, -, hnil⟩ := take_buffer xb
    have hz := Nat.eq_zero_of_not_pos hnone
    obtain rfl := (Bool.not_eq_true p).mp hp
    obtain ⟨hp', hwf'⟩ := prepared_fresh { r3 with buffer := some out, env := env, envRemain := env.length } out env rfl rfl rfl
      (trPrepare_env_len w pl _ data wc out env hpr)
    exact StepOk.fetch x (hcf ▸ hnext) hpr (TR.prepared_nil (r := r) (hnil hz hn) hz) rfl hp' (ih hn hwf' (he.trans herr))

/-- A backend handler reads the request body with buffer sizes `ns` (each at least 1, fuel `F` per
    call as `Flight.read` provides it) until a `Read` reports an error (`io.EOF` included): it has
    then been given the bytes `o`, and the error is `e`. -/
inductive Reads (w : World) (pl : HandlePlan) : St → TR → List Nat → Bytes → Err → Prop
  | last (st : St) (r : TR) (n : Nat) (ns : List Nat) (F : Nat) (b : Bytes) (e : Err) (st' : St) (r' : TR) :
      1 ≤ n → trRead w pl F st r n = (b, some e, st', r', false) → Reads w pl st r (n :: ns) b e
  | more (st : St) (r : TR) (n : Nat) (ns : List Nat) (F : Nat) (b : Bytes) (st' : St) (r' : TR) (o : Bytes) (e : Err) :
      1 ≤ n → trRead w pl F st r n = (b, none, st', r', false) → Reads w pl st' r' ns o e →
      Reads w pl st r (n :: ns) (b ++ o) e

/-- Whatever the read sizes, the handler is given the stream. -/
theorem Reads.stream {w : World} {pl : HandlePlan} {st : St} {r : TR} {ns : List Nat} {o : Bytes} {e : Err}
    (h : Reads w pl st r ns o e) : r.WF → r.err = none → Stream w pl st r.consumedFirst r.prepared o e := by
  induction h with
  | last st r n ns F b e st' r' hn hrd =>
    intro hwf herr
    have hs := trRead_step w pl F st r n hn hwf herr
    rw [hrd] at hs
    obtain ⟨rfl, hstream⟩ := (hs rfl).2 e rfl
    exact hstream
  | more st r n ns F b st' r' o e hn hrd _ ih =>
    intro hwf herr
    have hs := trRead_step w pl F st r n hn hwf herr
    rw [hrd] at hs
    obtain ⟨hwf', herr', hpre⟩ := (hs rfl).1 rfl
    exact hpre o e (ih hwf' herr')

end Vanguard
