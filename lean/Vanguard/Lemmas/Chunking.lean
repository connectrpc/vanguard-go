import Vanguard.Lemmas.Source
import Vanguard.Model.Handle
/-! Segmentation independence above `io.ReadFull`: whole request messages (C08), one (`cutMessage`, `wholeBody`)
  and all of a body (`cutMessages`), as functions of the body's bytes. -/
namespace Vanguard

def SrcEq (a b : Source) : Prop := a.data = b.data ∧ a.ending = b.ending

/-- Two request states that differ only in how the client's remaining body is cut into pieces. -/
structure StEq (a b : St) : Prop where
  op : a.op = b.op
  rw : a.rw = b.rw
  sink : a.sink = b.sink
  scratch : a.scratch = b.scratch
  src : SrcEq a.src b.src

def resultOk {α : Type} (r : Except Err α) : Prop := ∃ v, r = .ok v

/-- What the message reader makes of an envelope and the bytes `rest` after it: the message or the error, and
    the bytes left (after an error in the envelope: `rest`; after a cut: nothing). -/
def cutFrame (ce : Enveloper) (maxMsg : Nat) (f a b c d : UInt8) (rest : Bytes) : Except Err (Bytes × Bool) × Bytes :=
  match ce.decode f a b c d with
  | none => (.error (.rpc 3), rest)      -- RPC codes: 3 invalid_argument, 8 resource_exhausted
  | some env =>
    if env.trailer then (.error (.rpc 3), rest)
    else if env.length > maxMsg then (.error (.rpc 8), rest)
    else if env.length ≤ rest.length then (.ok (rest.take env.length, env.compressed), rest.drop env.length)
    else (.error .unexpectedEOF, [])

/-- What the message reader makes of the bytes of a body. -/
def cutMessage (ce : Enveloper) (maxMsg : Nat) (ending : SrcEnd) (data : Bytes) : Except Err (Bytes × Bool) × Bytes :=
  match data with
  | f :: a :: b :: c :: d :: rest => cutFrame ce maxMsg f a b c d rest
  | short => (.error (shortErr ending short), [])

theorem cutMessage_short (ce : Enveloper) (maxMsg : Nat) (ending : SrcEnd) (data : Bytes) (h : data.length < 5) :
    cutMessage ce maxMsg ending data = (.error (shortErr ending data), []) := by
  unfold cutMessage
  split
  · exact absurd h (Nat.not_lt.mpr (Nat.le_add_left 5 _))
  · rfl

theorem cutMessage_cons (ce : Enveloper) (maxMsg : Nat) (ending : SrcEnd) (f a b c d : UInt8) (rest : Bytes) :
    cutMessage ce maxMsg ending ([f, a, b, c, d] ++ rest) = cutFrame ce maxMsg f a b c d rest := rfl

theorem readRequestMessage_enveloped (w : World) (st : St) (rep : Bool) (ce : Enveloper)
    (hce : st.op.clientEnveloper = some ce) :
    ∃ src', src'.data = (cutMessage ce st.op.conf.maxMsg st.src.ending st.src.data).2 ∧ src'.ending = st.src.ending ∧
      readRequestMessage w st rep = ((cutMessage ce st.op.conf.maxMsg st.src.ending st.src.data).1,
        match (cutMessage ce st.op.conf.maxMsg st.src.ending st.src.data).1 with
        | .error (.rpc c) => if rep then reportError w { st with src := src' } (.rpc c) else ({ st with src := src' }, false)
        | _ => ({ st with src := src' }, false)) := by
  generalize hcut : cutMessage ce st.op.conf.maxMsg st.src.ending st.src.data = cut
  fun_cases readRequestMessage w st rep
  case case1 o ce' hce' hd s1 st1 err x =>
    -- fewer than five bytes are left
    obtain ⟨rfl, hlt, rfl, hnil, hend⟩ := readExactly_err x
    rw [cutMessage_short _ _ _ _ hlt] at hcut
    subst hcut
    refine ⟨s1, hnil, hend, ?_⟩
    -- the `match` of the statement reduces only once the error is a constructor: `shortErr` is `.eof` or `.unexpectedEOF`
    rcases shortErr_cases st.src.ending st.src.data with h | h <;> rw [h]
  case case2 o ce' hce' s1 st1 f a b c d fail hdec x =>
    -- no envelope of the client's protocol
    obtain rfl := Option.some.inj (hce'.symm.trans hce)
    obtain ⟨hdata, -, hend⟩ := readExactly_ok x
    rw [hdata, cutMessage_cons, cutFrame, hdec] at hcut
    subst hcut
    exact ⟨s1, rfl, hend, rfl⟩
  case case3 o ce' hce' s1 st1 f a b c d fail env hdec ht x =>
    -- an end-of-stream envelope
    obtain rfl := Option.some.inj (hce'.symm.trans hce)
    obtain ⟨hdata, -, hend⟩ := readExactly_ok x
    simp only [hdata, cutMessage_cons, cutFrame, hdec] at hcut
    rw [if_pos ht] at hcut
    subst hcut
    exact ⟨s1, rfl, hend, rfl⟩
  case case4 o ce' hce' s1 st1 f a b c d fail env hdec ht hm x =>
    -- a message above the limit
    obtain rfl := Option.some.inj (hce'.symm.trans hce)
    obtain ⟨hdata, -, hend⟩ := readExactly_ok x
    simp only [hdata, cutMessage_cons, cutFrame, hdec] at hcut
    rw [if_neg ht, if_pos hm] at hcut
    subst hcut
    exact ⟨s1, rfl, hend, rfl⟩
  case case5 o ce' hce' s1 st1 f a b c d env hdec ht hm payload s2 st2 x1 x2 =>
    -- the body ends inside the payload
    obtain rfl := Option.some.inj (hce'.symm.trans hce)
    obtain ⟨hdata, -, hend⟩ := readExactly_ok x1
    obtain ⟨-, hlt, -, hnil, hend2⟩ := readExactly_err x2
    simp only [hdata, cutMessage_cons, cutFrame, hdec] at hcut
    rw [if_neg ht, if_neg hm, if_neg (Nat.not_le.mpr hlt)] at hcut
    subst hcut
    exact ⟨s2, hnil, hend2.trans hend, rfl⟩
  case case6 o ce' hce' s1 st1 f a b c d env hdec ht hm payload s2 st2 err hne x1 x2 =>
    -- the same, with an error of the payload's read other than `io.EOF`: passed on as it is
    obtain rfl := Option.some.inj (hce'.symm.trans hce)
    obtain ⟨hdata, -, hend⟩ := readExactly_ok x1
    obtain ⟨-, hlt, rfl, hnil, hend2⟩ := readExactly_err x2
    simp only [hdata, cutMessage_cons, cutFrame, hdec] at hcut
    rw [if_neg ht, if_neg hm, if_neg (Nat.not_le.mpr hlt)] at hcut
    subst hcut
    refine ⟨s2, hnil, hend2.trans hend, ?_⟩
    rcases shortErr_cases s1.ending s1.data with h | h
    · exact absurd h hne
    · rw [h]
  case case7 o ce' hce' s1 st1 f a b c d env hdec ht hm payload s2 st2 x1 x2 =>
    -- a whole message
    obtain rfl := Option.some.inj (hce'.symm.trans hce)
    obtain ⟨hdata, -, hend⟩ := readExactly_ok x1
    obtain ⟨hdata2, hlen, hend2⟩ := readExactly_ok x2
    simp only [hdata, cutMessage_cons, cutFrame, hdec] at hcut
    rw [if_neg ht, if_neg hm, hdata2, if_pos (by rw [List.length_append, hlen]; exact Nat.le_add_right ..), List.take_left' hlen,
      List.drop_left' hlen] at hcut
    subst hcut
    exact ⟨s2, rfl, hend2.trans hend, rfl⟩
  case case8 hd _ _ hno x =>     -- no error and not five envelope bytes: cannot happen
    obtain ⟨f, a, b, c, d, h5⟩ := readExactly_five x
    exact absurd h5 (hno f a b c d)
  -- the paths of a client without envelopes: not this client (`with_reducible`: while it compares the equation wanted
  -- with that of the body's read, `assumption` would unfold the model)
  all_goals exact absurd (hce.symm.trans (show _ = none by with_reducible assumption)) nofun

/-- All messages of a request body, as the transcoder's own message reader cuts them out
    (specification-level loop over `readRequestMessage`). -/
def readMessages (w : World) : Nat → St → List (Bytes × Bool) × Err
  | 0, _ => ([], .other)
  | fuel + 1, st =>
    match (readRequestMessage w st false).1 with
    | .ok m => ((m :: (readMessages w fuel (readRequestMessage w st false).2.1).1), (readMessages w fuel (readRequestMessage w st false).2.1).2)
    | .error e => ([], e)

/-- What `readMessages` makes of the bytes of a body: `cutMessage` again and again. -/
def cutMessages (ce : Enveloper) (maxMsg : Nat) (ending : SrcEnd) : Nat → Bytes → List (Bytes × Bool) × Err
  | 0, _ => ([], .other)
  | fuel + 1, data =>
    match cutMessage ce maxMsg ending data with
    | (.ok m, rest) => (m :: (cutMessages ce maxMsg ending fuel rest).1, (cutMessages ce maxMsg ending fuel rest).2)
    | (.error e, _) => ([], e)

theorem readMessages_eq (w : World) (ce : Enveloper) : ∀ (n : Nat) (st : St), st.op.clientEnveloper = some ce →
    readMessages w n st = cutMessages ce st.op.conf.maxMsg st.src.ending n st.src.data := by
  intro n
  induction n with
  | zero => intro _ _; rfl
  | succ k ih =>
    intro st hce
    obtain ⟨src', hdata, hend, h⟩ := readRequestMessage_enveloped w st false ce hce
    rw [readMessages, cutMessages, h]
    generalize cutMessage ce st.op.conf.maxMsg st.src.ending st.src.data = cut at hdata ⊢
    obtain ⟨_ | m, rest⟩ := cut
    · rfl
    · simp only [ih { st with src := src' } hce, hdata, hend]

/-- What the message reader makes of the whole body of a client without envelopes. -/
def wholeBody (o : Op) (ending : SrcEnd) (data : Bytes) : Except Err (Bytes × Bool) :=
  if o.contentLen != -1 && o.contentLen > o.conf.maxMsg then .error (.rpc 8) else
  match copySpecErr (if o.contentLen == -1 then o.conf.maxMsg else o.contentLen.toNat) data.length ending with
  | some err => .error err
  | none => if data.isEmpty then .error .eof else .ok (data, o.cReqComp.isSome)

theorem readRequestMessage_unenveloped (w : World) (st : St) (rep : Bool) (hce : st.op.clientEnveloper = none) :
    (readRequestMessage w st rep).1 = wholeBody st.op st.src.ending st.src.data := by
  have hf : st.src.data.length < st.src.fuel := Nat.lt_of_lt_of_le (Nat.lt_add_of_pos_right (Nat.succ_pos 3)) st.src.fuel_ge
  unfold wholeBody
  fun_cases readRequestMessage w st rep
  case case9 h _ _ _ => rw [if_pos h]      -- the declared length is above the limit
  case case10 h lim data s1 p err x =>
    -- reading the body fails (too long, cut)
    obtain ⟨-, -, he, -⟩ := copyAllLimited_spec x hf
    rw [if_neg h, ← Nat.zero_add st.src.data.length, ← he]
  case case11 h lim data s1 p hemp x =>
    -- nothing was sent
    obtain ⟨-, hcat, he, hnil⟩ := copyAllLimited_spec x hf
    dsimp only at hcat he hnil
    rw [hnil (copySpecErr_none he.symm), List.append_nil, List.nil_append] at hcat
    rw [if_neg h, ← Nat.zero_add st.src.data.length, ← he, ← hcat]
    exact (if_pos hemp).symm
  case case12 h lim data s1 p hemp x =>
    -- the whole body is the message
    obtain ⟨-, hcat, he, hnil⟩ := copyAllLimited_spec x hf
    dsimp only at hcat he hnil
    rw [hnil (copySpecErr_none he.symm), List.append_nil, List.nil_append] at hcat
    rw [if_neg h, ← Nat.zero_add st.src.data.length, ← he, ← hcat]
    exact (if_neg hemp).symm
  -- the paths of a client with envelopes (cases 1 to 8): not this client (`with_reducible` as above)
  all_goals exact absurd (hce.symm.trans (show _ = some _ by with_reducible assumption)) nofun

/-- A frame as it appears on the wire: five envelope bytes and a payload. -/
structure Frame where
  f : UInt8
  a : UInt8
  b : UInt8
  c : UInt8
  d : UInt8
  payload : Bytes

def Frame.bytes (x : Frame) : Bytes := [x.f, x.a, x.b, x.c, x.d] ++ x.payload
def framesBytes (fs : List Frame) : Bytes := (fs.map Frame.bytes).flatten

def Frame.ok (ce : Enveloper) (maxMsg : Nat) (x : Frame) : Prop :=
  ∃ env, ce.decode x.f x.a x.b x.c x.d = some env ∧ env.trailer = false ∧ env.length = x.payload.length ∧
    ¬ env.length > maxMsg

def Frame.msg (ce : Enveloper) (x : Frame) : Bytes × Bool :=
  (x.payload, ((ce.decode x.f x.a x.b x.c x.d).map (·.compressed)).getD false)

theorem framesBytes_cons (x : Frame) (xs : List Frame) : framesBytes (x :: xs) = x.bytes ++ framesBytes xs := by
  simp [framesBytes]

theorem cutMessage_frame (ce : Enveloper) (maxMsg : Nat) (ending : SrcEnd) (x : Frame) (hok : x.ok ce maxMsg) (rest : Bytes) :
    cutMessage ce maxMsg ending (x.bytes ++ rest) = (.ok (x.msg ce), rest) := by
  obtain ⟨env, hdec, hnt, hlen, hfit⟩ := hok
  rw [hlen] at hfit
  simp [cutMessage, cutFrame, Frame.bytes, Frame.msg, hdec, hnt, hfit, hlen]

theorem readRequestMessage_frame (w : World) (st : St) (rep : Bool) (ce : Enveloper) (hce : st.op.clientEnveloper = some ce)
    (x : Frame) (hok : x.ok ce st.op.conf.maxMsg) (rest : Bytes) (hd : st.src.data = x.bytes ++ rest) :
    ∃ src', readRequestMessage w st rep = (.ok (x.msg ce), { st with src := src' }, false) ∧
      src'.data = rest ∧ src'.ending = st.src.ending := by
  obtain ⟨src', hdata, hend, h⟩ := readRequestMessage_enveloped w st rep ce hce
  rw [hd, cutMessage_frame ce _ _ x hok rest] at hdata h
  exact ⟨src', by rw [h], hdata, hend⟩

theorem readRequestMessage_short (w : World) (st : St) (rep : Bool) (ce : Enveloper) (hce : st.op.clientEnveloper = some ce)
    (h : st.src.data.length < 5) :
    ∃ src', readRequestMessage w st rep = (.error (shortErr st.src.ending st.src.data), { st with src := src' }, false) := by
  obtain ⟨src', _, _, hr⟩ := readRequestMessage_enveloped w st rep ce hce
  rw [cutMessage_short ce _ _ _ h] at hr
  refine ⟨src', ?_⟩
  rw [hr]
  rcases shortErr_cases st.src.ending st.src.data with h' | h' <;> rw [h']

theorem cutMessages_frames_then (ce : Enveloper) (maxMsg : Nat) (ending : SrcEnd) : ∀ (fs : List Frame) (tail : Bytes) (n : Nat),
    (∀ x ∈ fs, x.ok ce maxMsg) → tail.length < 5 → fs.length < n →
    cutMessages ce maxMsg ending n (framesBytes fs ++ tail) = (fs.map (Frame.msg ce), shortErr ending tail) := by
  intro fs
  induction fs with
  | nil =>
    intro tail n _ ht hn
    obtain ⟨k, rfl⟩ := Nat.exists_eq_add_one.mpr (Nat.zero_lt_of_lt hn)
    rw [cutMessages, show framesBytes [] ++ tail = tail from rfl, cutMessage_short _ _ _ _ ht]; rfl
  | cons x xs ih =>
    intro tail n hok ht hn
    obtain ⟨k, rfl⟩ := Nat.exists_eq_add_one.mpr (Nat.zero_lt_of_lt hn)
    rw [cutMessages, framesBytes_cons, List.append_assoc, cutMessage_frame ce _ _ x (hok x List.mem_cons_self)]
    simp only [ih tail k (fun y hy => hok y (List.mem_cons_of_mem _ hy)) ht (Nat.lt_of_succ_lt_succ hn),
      List.map_cons]

end Vanguard
