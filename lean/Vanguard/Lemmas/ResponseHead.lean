import Vanguard.Model.Serve
import Vanguard.Props.C04
import Vanguard.Lemmas.Hdr
/-! `addProtocolResponseHeaders` of the client forms as data (`addResponseHeaders_snd`; the HTTP status:
    `addResponseHeaders_fst`): a table of control headers, the trailers of an end that travels in the head, the control
    header a unary Connect client gets after them, and the trailer names a gRPC client is told to expect.  The request
    side has the same shape (`addRequestHeaders_eq` in `Lemmas/TargetHeaders.lean`). -/
namespace Vanguard

theorem httpStatusFromRPC_isSome (c : Nat) : (httpStatusFromRPC c).isSome = true := by
  have := C04.status_from_rpc_spec c
  unfold Spec.statusFromRPCOk at this
  cases h : httpStatusFromRPC c with
  | none => simp [h] at this
  | some _ => rfl

theorem addResponseHeaders_fst (c : ClientForm) (rm : RespMeta) (k : Sink) :
    (addResponseHeaders c rm k).1 =
      if c = .connectPost ∨ c = .connectGet then
        match rm.end.bind (·.err) with
        | some e => httpStatusFromRPC e.code
        | none => some 200
      else some 200 := by
  unfold addResponseHeaders
  -- with the form fixed, `rfl` decides the test on it
  cases c
  case grpc => cases rm.end <;> rfl      -- trailers are declared or not: 200 either way
  case connectPost | connectGet => cases rm.end.bind (·.err) <;> rfl
  case grpcWeb | connectStream | rest => rfl

theorem addResponseHeaders_status_isSome (c : ClientForm) (rm : RespMeta) (k : Sink) :
    (addResponseHeaders c rm k).1.isSome = true := by
  rw [addResponseHeaders_fst]
  split
  · split
    · exact httpStatusFromRPC_isSome _
    · rfl
  · rfl

def ClientForm.responseContentType (c : ClientForm) (rm : RespMeta) : Option Bytes :=
  match c with
  | .grpc => some (s "application/grpc+" ++ rm.codec)
  | .grpcWeb => some (s "application/grpc-web+" ++ rm.codec)
  | .connectStream => some (s "application/connect+" ++ rm.codec)
  | .connectPost | .connectGet =>
    match rm.end.bind (·.err) with
    | some _ => some (s "application/json")
    | none => some (s "application/" ++ rm.codec)
  | .rest => none

/-- The control headers assigned first, in order (`none` = the `Set` stands under a condition that does not hold). -/
def ClientForm.responseControls (c : ClientForm) (rm : RespMeta) : List (Bytes × Option Bytes) :=
  let acc := joinBytes commaSpace rm.acceptCompression
  let opt (cond : Bool) (v : Bytes) : Option Bytes := if cond then some v else none
  match c with
  | .grpc | .grpcWeb =>
    [(s "Content-Type", c.responseContentType rm),
     (s "Grpc-Encoding", opt (rm.end.isNone && !rm.compression.isEmpty) rm.compression),
     (s "Grpc-Accept-Encoding", opt (rm.end.isNone && !rm.acceptCompression.isEmpty) acc)]
  | .connectStream =>
    [(s "Content-Type", c.responseContentType rm),
     (s "Connect-Content-Encoding", opt (!rm.compression.isEmpty) rm.compression),
     (s "Connect-Accept-Encoding", opt (!rm.acceptCompression.isEmpty) acc)]
  | .connectPost | .connectGet =>
    [(s "Content-Type", c.responseContentType rm),
     (s "Content-Encoding", opt ((rm.end.bind (·.err)).isNone && !rm.compression.isEmpty) rm.compression)]
  | .rest => []

def ClientForm.lateControls (c : ClientForm) (rm : RespMeta) : List (Bytes × Option Bytes) :=
  if c = .connectPost ∨ c = .connectGet then
    [(s "Accept-Encoding",
      if !rm.acceptCompression.isEmpty then some (joinBytes commaSpace rm.acceptCompression) else none)]
  else []

/-- The trailers written into the head, and the key each gets there. -/
def ClientForm.headTrailers (c : ClientForm) (rm : RespMeta) : Hdr :=
  if c = .connectStream ∨ c = .rest then [] else
  match rm.end with
  | some e => e.trailers
  | none => []

def ClientForm.headTrailerKey (c : ClientForm) (k : Bytes) : Bytes :=
  if c = .connectPost ∨ c = .connectGet then s "Trailer-" ++ k else k

def ClientForm.declaredTrailers (c : ClientForm) (rm : RespMeta) : List Bytes :=
  if c == .grpc && rm.end.isNone then
    let keys := (rm.pendingTrailerKeys ++ rm.pendingTrailers.map (fun e => canonKey e.1)).eraseDups
    keys ++ (if keys.contains (s "Grpc-Status") then [] else [s "Grpc-Status"]) ++
      (if keys.contains (s "Grpc-Message") then [] else [s "Grpc-Message"])
  else []

/-- The header map of the response head, from the map `h` the handler left. -/
def ClientForm.responseHead (c : ClientForm) (rm : RespMeta) (h : Hdr) : Hdr :=
  let h := h.assign (c.responseControls rm)
  let h := (c.headTrailers rm).foldl (fun acc t => acc.setRaw (c.headTrailerKey t.1) t.2) h
  (h.assign (c.lateControls rm)).addAll (s "Trailer") (c.declaredTrailers rm)

/-- The end a gRPC or gRPC-Web head carries as its status. -/
def ClientForm.headEnd (c : ClientForm) (rm : RespMeta) : Option RespEnd :=
  if c == .grpc || c == .grpcWeb then rm.end else none

theorem ClientForm.declaredTrailers_of_end {c : ClientForm} {rm : RespMeta} {e : RespEnd} (he : rm.end = some e) :
    c.declaredTrailers rm = [] := by
  simp [ClientForm.declaredTrailers, he]

theorem ClientForm.headTrailers_of_end {c : ClientForm} {rm : RespMeta} {e : RespEnd} (he : rm.end = some e)
    (hc : ¬(c = .connectStream ∨ c = .rest)) : c.headTrailers rm = e.trailers := by
  simp only [ClientForm.headTrailers, if_neg hc, he]

theorem addResponseHeaders_snd (c : ClientForm) (rm : RespMeta) (k : Sink) :
    (addResponseHeaders c rm k).2 =
      { k with
        hdr := c.responseHead rm k.hdr
        hdrEnd := match c.headEnd rm with
          | some e => e.err
          | none => k.hdrEnd
        hdrEndSet := (c.headEnd rm).isSome || k.hdrEndSet } := by
  obtain ⟨e, codec, comp, acc, pt, ptk⟩ := rm
  unfold addResponseHeaders
  rw [setIf_eq_setOpt]
  -- with the form, and the end where the form asks for it, both sides are the same chain of edits
  cases c
  case connectStream | rest => rfl
  case connectPost | connectGet => rcases e with _ | ⟨⟨_ | err, trailers, _, _⟩⟩ <;> rfl
  case grpcWeb => cases e <;> rfl
  case grpc =>
    cases e
    case some => rfl
    -- the two status names are announced after the handler's own, unless it announced them itself
    simp only [ClientForm.responseHead, ClientForm.declaredTrailers, Hdr.addAll, List.foldl_append, beq_self_eq_true,
      Option.isNone_none, Bool.and_self, if_true, apply_ite (List.foldl _ _), List.foldl_nil, List.foldl_cons]
    rfl

theorem addResponseHeaders_hdr (c : ClientForm) (rm : RespMeta) (k : Sink) :
    (addResponseHeaders c rm k).2.hdr = c.responseHead rm k.hdr := by
  rw [addResponseHeaders_snd]

/-- No client form assigns a control header twice, and none assigns `Trailer` (the names are evaluated here,
    once). -/
theorem responseControls_nodup (c : ClientForm) (rm : RespMeta) :
    (((c.responseControls rm).map fun e => canonKey e.1) ++
      (((c.lateControls rm).map fun e => canonKey e.1) ++ [canonKey (s "Trailer")])).Nodup := by
  cases c <;> simp only [ClientForm.responseControls, ClientForm.lateControls, reduceCtorEq, or_self, or_true, true_or,
    if_true, if_false, List.map] <;> decide +kernel

theorem values_responseHead_control (c : ClientForm) (rm : RespMeta) (h : Hdr) (k : Bytes) (ov : Option Bytes)
    (hmem : (k, ov) ∈ c.responseControls rm) (ht : ∀ t ∈ c.headTrailers rm, c.headTrailerKey t.1 ≠ canonKey k) :
    (c.responseHead rm h).values k = (h.setOpt k ov).values k := by
  obtain ⟨hnd, -, hne⟩ := List.nodup_append.1 (responseControls_nodup c rm)
  have hk := List.mem_map_of_mem (f := fun e => canonKey e.1) hmem
  simp only [ClientForm.responseHead]
  rw [Hdr.values_addAll_ne _ _ _ _ fun h => hne _ hk _ (List.mem_append_right _ (List.mem_singleton_self _)) h.symm,
    Hdr.values_assign_ne _ _ _ fun e he h => hne _ hk _ (List.mem_append_left _ (List.mem_map_of_mem he)) h.symm,
    foldl_setRaw_values _ _ _ _ ht, Hdr.values_assign_mem _ _ _ _ hnd hmem]

theorem ClientForm.headTrailerKey_inj (c : ClientForm) (a b : Bytes) (h : c.headTrailerKey a = c.headTrailerKey b) :
    a = b := by
  unfold ClientForm.headTrailerKey at h
  split at h
  · exact List.append_cancel_left h
  · exact h

theorem values_responseHead_trailer (c : ClientForm) (rm : RespMeta) (h : Hdr) (k : Bytes) (e : RespEnd)
    (t : Bytes × List Bytes) (he : rm.end = some e) (hc : ¬(c = .connectStream ∨ c = .rest))
    (hd : e.trailers.Pairwise (fun a b => a.1 ≠ b.1)) (ht : t ∈ e.trailers) (hk : c.headTrailerKey t.1 = canonKey k)
    (hl : ∀ x ∈ c.lateControls rm, canonKey x.1 ≠ canonKey k) : (c.responseHead rm h).values k = t.2 := by
  simp only [ClientForm.responseHead, ClientForm.declaredTrailers_of_end he, ClientForm.headTrailers_of_end he hc,
    Hdr.addAll, List.foldl_nil]
  rw [Hdr.values_assign_ne _ _ _ hl]
  exact foldl_setRaw_values_mem _ c.headTrailerKey_inj _ _ k t hd ht hk

theorem addResponseHeaders_frame (c : ClientForm) (rm : RespMeta) (k : Sink) :
    (addResponseHeaders c rm k).2.items = k.items ∧ (addResponseHeaders c rm k).2.status = k.status ∧
    (addResponseHeaders c rm k).2.flushedN = k.flushedN ∧ (addResponseHeaders c rm k).2.trailerEndSet = k.trailerEndSet ∧
    (addResponseHeaders c rm k).2.trailerEnd = k.trailerEnd ∧ (addResponseHeaders c rm k).2.snap = k.snap := by
  rw [addResponseHeaders_snd]
  exact ⟨rfl, rfl, rfl, rfl, rfl, rfl⟩

end Vanguard
