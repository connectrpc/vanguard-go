import Vanguard.Lemmas.Chunking
import Vanguard.Lemmas.TwRound
/-!
  The re-encoding writer (`transformingWriter`) fed a well-formed stream of backend frames in one `Write` (C01):
  what the client is to receive (`respConvertedAll`), and the loop followed round by round - per frame one round
  for the envelope (`twRound_envelope`) and one for the message (`twRound_message`), after which the writer is
  where it started (`TW.AtStart`).
-/
namespace Vanguard

/-- The message bytes of a response body (end frames and error bodies left out). -/
def rawBytes (items : List Item) : Bytes :=
  items.flatMap fun i => match i with
    | .raw b => b
    | _ => []

theorem rawBytes_write (k : Sink) (b : Bytes) : rawBytes (k.write b).items = rawBytes k.items ++ b := by
  unfold Sink.write
  cases b with
  | nil => cases k.status.isNone <;> exact (List.append_nil _).symm
  | cons x xs => cases k.status.isNone <;> exact List.flatMap_append.trans (congrArg _ (List.append_nil _))

/-- What the client is to receive for one frame of the backend: its own envelope and the converted message. -/
def respConverted (w : World) (st : St) (cc : Enveloper) (env : Envelope) (payload : Bytes) : Option Bytes :=
  match transformMsg w st.op.conf.maxMsg st.rw.sameRespCodec true env.compressed st.rw.cRespComp st.rw.cRespComp
          st.op.scodec st.op.ccodec payload with
  | .ok out =>
    if out.length > st.op.conf.maxMsg then none
    else some (cc.encode { compressed := env.compressed && st.rw.cRespComp.isSome, length := out.length } ++ out)
  | .error _ => none

def respConvertedAll (w : World) (st : St) (se cc : Enveloper) : List Frame → Option Bytes
  | [] => some []
  | x :: xs =>
    match se.decode x.f x.a x.b x.c x.d with
    | none => none
    | some env =>
      match respConverted w st cc env x.payload, respConvertedAll w st se cc xs with
      | some b, some bs => some (b ++ bs)
      | _, _ => none

/-- The re-encoding writer between two messages. -/
structure TW.AtStart (t : TW) : Prop where
  err : t.err = false
  buf : t.buffer = some []
  exp : t.expecting = 5
  we : t.writingEnvelope = true

theorem respConvertedAll_sink (w : World) (st : St) (k : Sink) (se cc : Enveloper) :
    ∀ fs, respConvertedAll w { st with sink := k } se cc fs = respConvertedAll w st se cc fs := by
  intro fs
  induction fs with
  | nil => rfl
  | cons x xs ih => simp only [respConvertedAll, ih]; rfl

/-- The last `Flush` came after the last item written: everything is on the wire. -/
def Sink.flushedAfterLast (k : Sink) : Prop := k.flushedN = some k.items.length

section
variable {w : World} {tb : Tables} {st : St} {t : TW} {se cc : Enveloper} {env : Envelope}

theorem respConvertedAll_cons {x : Frame} {xs : List Frame} {outs : Bytes} (hdec : se.decode x.f x.a x.b x.c x.d = some env)
    (h : respConvertedAll w st se cc (x :: xs) = some outs) :
    ∃ b bs, respConverted w st cc env x.payload = some b ∧ respConvertedAll w st se cc xs = some bs ∧ outs = b ++ bs := by
  simp only [respConvertedAll, hdec] at h
  split at h
  · cases h; exact ⟨_, _, ‹_›, ‹_›, rfl⟩
  · cases h

theorem respConverted_some {payload b : Bytes} (h : respConverted w st cc env payload = some b) :
    ∃ out, transformMsg w st.op.conf.maxMsg st.rw.sameRespCodec true env.compressed st.rw.cRespComp st.rw.cRespComp
        st.op.scodec st.op.ccodec payload = .ok out ∧ ¬ out.length > st.op.conf.maxMsg ∧
      b = cc.encode { compressed := env.compressed && st.rw.cRespComp.isSome, length := out.length } ++ out := by
  unfold respConverted at h
  split at h
  · split at h
    · cases h
    · cases h; exact ⟨_, ‹_›, ‹_›, rfl⟩
  · cases h

theorem twRound_envelope {f a b c d : UInt8} (rest : Bytes) (ht : t.AtStart) (hse : st.op.serverEnveloper = some se)
    (hdec : se.decode f a b c d = some env) (hfit : ¬ env.length > st.op.conf.maxMsg) :
    twRound w tb st t ([f, a, b, c, d] ++ rest) =
      .next st { t with buffer := some [], expecting := env.length, writingEnvelope := false,
                        msgCompressed := env.compressed, latest := env } rest := by
  rw [twRound_whole (a := [f, a, b, c, d]) ht.err ht.buf ht.exp]
  simp only [twComplete, ht.we, hse, hdec, hfit, if_true, if_false]

theorem twFlushMessage_converts {payload out : Bytes} (hb : st.rw.buf = none) (hcc : st.op.clientEnveloper = some cc)
    (hnt : t.latest.trailer = false) (hbuf : t.buffer = some payload) (hmc : t.msgCompressed = env.compressed)
    (hconv : respConverted w st cc env payload = some out) :
    ∃ k, twFlushMessage w tb st t = ({ st with sink := k }, twReset { st with sink := k } t, none, false) ∧
      rawBytes k.items = rawBytes st.sink.items ++ out ∧ k.flushedAfterLast := by
  obtain ⟨o, htr, hol, rfl⟩ := respConverted_some hconv
  unfold twFlushMessage
  simp only [hnt, hbuf, hmc, Option.getD_some, htr, hcc, hol, if_false, writeDown, hb, flushMessage, Option.isSome_none,
    Bool.or_self, Bool.false_eq_true]
  exact ⟨_, rfl, by simp only [Sink.flush, rawBytes_write, List.append_assoc], rfl⟩

theorem twRound_message (t : TW) {payload out : Bytes} (rest : Bytes) (hb : st.rw.buf = none) (hcc : st.op.clientEnveloper = some cc)
    (herr : t.err = false) (hbuf : t.buffer = some []) (hexp : t.expecting = payload.length) (hwe : t.writingEnvelope = false)
    (hnt : t.latest.trailer = false) (hmc : t.msgCompressed = env.compressed)
    (hconv : respConverted w st cc env payload = some out) :
    ∃ k t', twRound w tb st t (payload ++ rest) = .next { st with sink := k } t' rest ∧ t'.AtStart ∧
      rawBytes k.items = rawBytes st.sink.items ++ out ∧ k.flushedAfterLast := by
  obtain ⟨k, hfl, hraw, hflushed⟩ :=
    twFlushMessage_converts (w := w) (tb := tb) (t := { t with buffer := some payload }) hb hcc hnt rfl hmc hconv
  refine ⟨k, { twReset { st with sink := k } { t with buffer := some payload } with expecting := 5, writingEnvelope := true }, ?_,
    ⟨(twReset_err _ _).trans herr, twReset_buffer _ _, rfl, rfl⟩, hraw, hflushed⟩
  rw [twRound_whole herr hbuf hexp, twComplete, if_neg (ne_true_of_eq_false hwe), hfl]
  simp only [twReset_latest, hnt, Bool.false_and, Bool.false_eq_true, if_false]

end

theorem twLoop_clean_stream (w : World) (tb : Tables) (se cc : Enveloper) :
    ∀ (fs : List Frame) (fuel : Nat) (st : St) (t : TW) (outs : Bytes),
      2 * fs.length < fuel →
      st.rw.buf = none → st.op.serverEnveloper = some se → st.op.clientEnveloper = some cc → t.AtStart →
      (∀ x ∈ fs, x.ok se st.op.conf.maxMsg) → respConvertedAll w st se cc fs = some outs →
      ∃ st' t', twLoop w tb fuel st t (framesBytes fs) = (st', t', false, false) ∧
        rawBytes st'.sink.items = rawBytes st.sink.items ++ outs ∧ (fs ≠ [] ∨ st.sink.flushedAfterLast → st'.sink.flushedAfterLast) := by
  intro fs
  induction fs with
  | nil =>
    intro fuel st t outs hf _ _ _ ht _ hconv
    cases hconv
    obtain ⟨m, rfl⟩ := Nat.exists_eq_add_one_of_ne_zero (Nat.ne_of_gt hf)
    have hm : (([] : Bytes).length : Int) < t.missing := by rw [TW.missing, ht.exp, ht.buf]; decide
    exact ⟨st, _, by rw [twLoop_succ, show framesBytes [] = [] from rfl, twRound_short ht.err hm]; rfl, (List.append_nil _).symm, fun h => h.resolve_left (· rfl)⟩
  | cons x xs ih =>
    intro fuel st t outs hf hb hse hcc ht hok hconv
    obtain ⟨env, hdec, hnt, hlen, hfit⟩ := hok x List.mem_cons_self
    obtain ⟨b, bs, hc1, hc2, rfl⟩ := respConvertedAll_cons hdec hconv
    rw [List.length_cons, Nat.mul_succ] at hf   -- `hf : 2 * xs.length + 2 < fuel`: two rounds for `x`, the rest for `xs`
    obtain ⟨m, rfl⟩ := Nat.exists_eq_add_of_le' (Nat.le_of_lt (Nat.lt_of_le_of_lt (Nat.le_add_left 2 _) hf))
    -- two rounds: the envelope, then the message
    obtain ⟨k, t1, h1, hat, hraw, hfl⟩ := twRound_message (w := w) (tb := tb)
      { t with buffer := some [], expecting := env.length, writingEnvelope := false, msgCompressed := env.compressed, latest := env }
      (framesBytes xs) hb hcc ht.err rfl (congrArg Int.ofNat hlen) rfl hnt rfl hc1
    obtain ⟨st', t', h2, hraw', hfl'⟩ := ih m { st with sink := k } t1 bs (Nat.lt_of_add_lt_add_right hf) hb hse hcc
      hat (fun y hy => hok y (List.mem_cons_of_mem _ hy)) ((respConvertedAll_sink w st k se cc xs).trans hc2)
    refine ⟨st', t', ?_, by rw [hraw', hraw, List.append_assoc], fun _ => hfl' (.inr hfl)⟩
    rw [framesBytes_cons, Frame.bytes, List.append_assoc, twLoop_succ, twRound_envelope _ ht hse hdec hfit, Round.run,
      twLoop_succ, h1, Round.run, h2]

theorem framesBytes_length (fs : List Frame) : fs.length ≤ (framesBytes fs).length := by
  induction fs with
  | nil => exact Nat.le_refl 0
  | cons x xs ih =>   -- a frame has at least the byte of its flags
    rw [framesBytes_cons, List.length_append, Nat.add_comm]
    exact Nat.add_le_add ih (Nat.succ_pos _)

theorem twWrite_clean_stream (w : World) (tb : Tables) (se cc : Enveloper) (st : St) (fs : List Frame) (outs : Bytes)
    (hb : st.rw.buf = none) (hse : st.op.serverEnveloper = some se) (hcc : st.op.clientEnveloper = some cc)
    (hok : ∀ x ∈ fs, x.ok se st.op.conf.maxMsg) (hconv : respConvertedAll w st se cc fs = some outs) :
    (twWrite w tb st {} (framesBytes fs)).2.2.1 = false ∧ (twWrite w tb st {} (framesBytes fs)).2.2.2 = false ∧
    rawBytes (twWrite w tb st {} (framesBytes fs)).1.sink.items = rawBytes st.sink.items ++ outs ∧
    (fs ≠ [] → (twWrite w tb st {} (framesBytes fs)).1.sink.flushedN
                = some (twWrite w tb st {} (framesBytes fs)).1.sink.items.length) := by
  have hstart : (twReset st {}).AtStart := by
    unfold twReset
    simp only [hse, Option.isSome_some, if_true]
    exact ⟨rfl, rfl, rfl, rfl⟩
  have hexp : ((twReset st {}).expecting == -1) = false := by rw [hstart.exp]; rfl
  have heq : twWrite w tb st {} (framesBytes fs) = twLoop w tb (2 * (framesBytes fs).length + 4) st (twReset st {}) (framesBytes fs) := by
    unfold twWrite
    simp only [Bool.false_eq_true, if_false, Option.isNone_none, if_true, hexp]
  obtain ⟨st', t', h, hraw, hfl⟩ := twLoop_clean_stream w tb se cc fs (2 * (framesBytes fs).length + 4) st _ outs
    (Nat.lt_of_le_of_lt (Nat.mul_le_mul_left 2 (framesBytes_length fs)) (Nat.lt_add_of_pos_right (by decide))) hb hse hcc hstart hok hconv
  rw [heq, h]
  exact ⟨rfl, rfl, hraw, fun hne => hfl (.inl hne)⟩

end Vanguard
