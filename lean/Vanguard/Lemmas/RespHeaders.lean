import Vanguard.Lemmas.Outcome
/-! Preservation of application headers on the response side (C05). -/
namespace Vanguard

/-- Header names the protocol handlers read, delete or set on the response side. -/
def respControlNames : List Bytes :=
  [s "Content-Type", s "Content-Length", s "Content-Encoding", s "Accept-Encoding", s "Grpc-Encoding",
   s "Grpc-Accept-Encoding", s "Connect-Content-Encoding", s "Connect-Accept-Encoding", s "Trailer",
   s "Grpc-Status", s "Grpc-Message", s "Grpc-Status-Details-Bin"]

/-- `k` is an application header of a response: no control header, and not one of the two ways
    of writing a trailer into the header map (`Trailer:K` of net/http, `Trailer-K` of Connect unary). -/
structure RespApp (k : Bytes) : Prop where
  notControl : ∀ c ∈ respControlNames, canonKey c ≠ canonKey k
  notTrailerColon : hasPrefix trailerPrefix (canonKey k) = false
  notTrailerDash : hasPrefix (s "Trailer-") (canonKey k) = false

theorem RespApp.values_del {k : Bytes} (hk : RespApp k) (h : Hdr) (a : Bytes) (ha : a ∈ respControlNames) :
    (h.del a).values k = h.values k := Hdr.values_del_ne h a k (hk.notControl a ha)

theorem grpcExtractErrorFromTrailer_snd (tb : Tables) (h : Hdr) :
    (grpcExtractErrorFromTrailer tb h).2 =
      ((h.del (s "Grpc-Status")).del (s "Grpc-Message")).del (s "Grpc-Status-Details-Bin") := by
  -- every path answers with the same map
  fun_cases grpcExtractErrorFromTrailer tb h <;> rfl

theorem grpcExtractErrorFromTrailer_values (tb : Tables) (h : Hdr) (k : Bytes) (hk : RespApp k) :
    (grpcExtractErrorFromTrailer tb h).2.values k = h.values k := by
  rw [grpcExtractErrorFromTrailer_snd, hk.values_del _ _ (by simp [respControlNames]), hk.values_del _ _ (by simp [respControlNames]),
    hk.values_del _ _ (by simp [respControlNames])]

theorem httpExtractTrailers_rest_values (h : Hdr) (known : List Bytes) (k : Bytes) (hk : RespApp k)
    (hn : known.contains (canonKey k) = false) : (httpExtractTrailers h known).2.values k = h.values k := by
  unfold httpExtractTrailers
  simp only
  exact Hdr.values_filter_keep h _ k (fun e he => by
    have hn' : ¬ canonKey k ∈ known := by simpa using hn
    simp [he, hk.notTrailerColon, hn'])

theorem connectExtractUnaryTrailers_rest_values (h : Hdr) (k : Bytes) (hk : RespApp k) :
    (connectExtractUnaryTrailers h).2.values k = h.values k := by
  unfold connectExtractUnaryTrailers
  simp only
  exact Hdr.values_filter_keep h _ k (fun e he => by simp [he, hk.notTrailerDash])

theorem grpcExtractResponseMeta_snd (tb : Tables) (a b : Bytes) (status : Nat) (h : Hdr) :
    (grpcExtractResponseMeta tb a b status h).2 =
      let h3 := ((h.del (s "Content-Type")).del (s "Grpc-Encoding")).del (s "Grpc-Accept-Encoding")
      let h4 := if !(h3.values (s "Grpc-Status")).isEmpty then
        (httpExtractTrailers (grpcExtractErrorFromTrailer tb h3).2 []).2 else h3
      if status != 200 then (httpExtractTrailers h4 []).2 else h4 := by
  unfold grpcExtractResponseMeta
  simp only
  -- `cases` on the conditions, not `split`: ten times cheaper on this term
  cases (status != 200) <;>
    cases !((((h.del (s "Content-Type")).del (s "Grpc-Encoding")).del (s "Grpc-Accept-Encoding")).values (s "Grpc-Status")).isEmpty <;> rfl

theorem grpcExtractResponseMeta_values (tb : Tables) (a b : Bytes) (status : Nat) (h : Hdr) (k : Bytes) (hk : RespApp k) :
    (grpcExtractResponseMeta tb a b status h).2.values k = h.values k := by
  have ht := fun h => httpExtractTrailers_rest_values h [] k hk (by simp)
  rw [grpcExtractResponseMeta_snd]
  extract_lets h3 h4
  have e3 : h3.values k = h.values k := by
    rw [hk.values_del _ _ (by simp [respControlNames]), hk.values_del _ _ (by simp [respControlNames]),
      hk.values_del _ _ (by simp [respControlNames])]
  have e4 : h4.values k = h.values k := by
    unfold h4
    split
    · rw [ht, grpcExtractErrorFromTrailer_values tb _ k hk, e3]
    · exact e3
  split
  · rw [ht, e4]
  · exact e4

theorem extract_response_preserves (p : ServerForm) (tb : Tables) (status : Nat) (h : Hdr) (k : Bytes) (hk : RespApp k) :
    (p.extractResponseHeaders tb status h).2.2.values k = h.values k := by
  cases p <;> simp only [ServerForm.extractResponseHeaders]
  case grpc => exact grpcExtractResponseMeta_values tb _ _ status h k hk
  case grpcWeb => exact grpcExtractResponseMeta_values tb _ _ status h k hk
  case connectStream =>
    -- the same three deletions on either side of the status test
    have e : (((h.del (s "Content-Type")).del (s "Connect-Content-Encoding")).del (s "Connect-Accept-Encoding")).values k =
        h.values k := by
      rw [hk.values_del _ _ (by simp [respControlNames]), hk.values_del _ _ (by simp [respControlNames]),
        hk.values_del _ _ (by simp [respControlNames])]
    cases (status != 200) <;> exact e
  case connectUnary =>
    have e : (connectExtractUnaryTrailers (((h.del (s "Content-Type")).del (s "Content-Encoding")).del
        (s "Accept-Encoding"))).2.values k = h.values k := by
      rw [connectExtractUnaryTrailers_rest_values _ k hk, hk.values_del _ _ (by simp [respControlNames]),
        hk.values_del _ _ (by simp [respControlNames]), hk.values_del _ _ (by simp [respControlNames])]
    cases (status == 200) <;> exact e

/-- The trailers of an end that is written into the response head do not use the key `k`
    (neither as it is, nor in Connect's `Trailer-` form). -/
def EndAvoids (e : Option RespEnd) (k : Bytes) : Prop :=
  ∀ x, e = some x → ∀ t ∈ x.trailers, t.1 ≠ canonKey k ∧ (s "Trailer-" ++ t.1) ≠ canonKey k

theorem EndAvoids.headTrailers {rm : RespMeta} {k : Bytes} (ha : EndAvoids rm.end k) (c : ClientForm) :
    ∀ t ∈ c.headTrailers rm, c.headTrailerKey t.1 ≠ canonKey k := by
  unfold ClientForm.headTrailers ClientForm.headTrailerKey
  split
  · nofun
  · cases he : rm.end with
    | none => nofun
    | some e =>
      intro t ht
      split
      · exact (ha e he t ht).2
      · exact (ha e he t ht).1

theorem responseControls_subset (c : ClientForm) (rm : RespMeta) :
    ∀ e ∈ c.responseControls rm ++ c.lateControls rm, e.1 ∈ respControlNames := by
  cases c <;> simp only [ClientForm.responseControls, ClientForm.lateControls, reduceCtorEq, or_self, or_true, true_or,
    if_true, if_false, List.cons_append, List.nil_append, List.forall_mem_cons, List.not_mem_nil, false_imp_iff,
    implies_true, and_true]
  all_goals simp only [respControlNames, List.mem_cons, true_or, or_true, and_self]

theorem add_response_preserves (c : ClientForm) (rm : RespMeta) (sink : Sink) (k : Bytes) (hk : RespApp k)
    (ha : EndAvoids rm.end k) : (addResponseHeaders c rm sink).2.hdr.values k = sink.hdr.values k := by
  have hc := fun e he => hk.notControl _ (responseControls_subset c rm e he)
  simp only [addResponseHeaders_hdr, ClientForm.responseHead]
  rw [Hdr.values_addAll_ne _ _ _ _ (hk.notControl _ (by simp [respControlNames])),
    Hdr.values_assign_ne _ _ _ fun e he => hc e (List.mem_append_right _ he), foldl_setRaw_values _ _ _ _ (ha.headTrailers c),
    Hdr.values_assign_ne _ _ _ fun e he => hc e (List.mem_append_left _ he)]

/-- The handler-visible header map keeps the values of key `k` from `a` to `b`. -/
def HK (k : Bytes) (a b : St) : Prop := b.hdr.values k = a.hdr.values k

theorem HK.refl (k : Bytes) (a : St) : HK k a a := rfl
theorem HK.trans {k : Bytes} {a b c : St} (h1 : HK k a b) (h2 : HK k b c) : HK k a c := by
  unfold HK at *; rw [h2, h1]
theorem HK.setHdr {k : Bytes} (a : St) (h : Hdr) (hv : h.values k = a.hdr.values k) : HK k a (a.setHdr h) := by
  unfold HK; rw [St.hdr_setHdr]; exact hv
theorem HK.rwUpdate {k : Bytes} (a : St) (r : RW) (he : r.endWritten = a.rw.endWritten) : HK k a { a with rw := r } := by
  unfold HK; rw [St.hdr_congr_rw a r he]
theorem HK.ite {k : Bytes} {a x y : St} (c : Prop) [Decidable c] (hx : HK k a x) (hy : HK k a y) :
    HK k a (if c then x else y) := by
  split <;> assumption

/-- **`WriteHeader`, taking the backend's head apart** keeps every application header. -/
theorem rwPrepareMeta_preserves (tb : Tables) (st : St) (status : Nat) (cl : Int) (clText : Bytes) (k : Bytes)
    (hk : RespApp k) : HK k st (rwPrepareMeta tb st status cl clText).1 := by
  unfold rwPrepareMeta
  -- from the result back to `st`, assignment by assignment (as in `rwPrepareMeta_neutral`)
  refine HK.trans ?_ (HK.rwUpdate _ _ rfl)
  refine HK.trans ?_ (HK.setHdr _ _ (by rw [hk.values_del _ _ (by simp [respControlNames]), hk.values_del _ _ (by simp [respControlNames])]))
  -- with or without a `Trailer` header taken out, from the same state: one goal `?s3`
  refine HK.ite _ ?s3 (HK.trans ?s3 (HK.setHdr _ _ (hk.values_del _ _ (by simp [respControlNames]))))
  refine HK.trans ?_ (HK.setHdr _ _ (extract_response_preserves _ _ _ _ k hk))
  refine HK.trans ?_ (HK.rwUpdate _ _ rfl)
  exact HK.ite _ (HK.refl k st) (HK.setHdr _ _ (hk.values_del _ _ (by simp [respControlNames])))

theorem writeHeader_first (k : Sink) (code : Nat) (h : k.status = none) :
    (k.writeHeader code).snap = k.hdr ∧ (k.writeHeader code).status = some code := by
  unfold Sink.writeHeader; simp [h]

theorem write_sent (k : Sink) (b : Bytes) (code : Nat) (h : k.status = some code) :
    (k.write b).snap = k.snap ∧ (k.write b).status = some code := by
  unfold Sink.write
  by_cases hb : b.isEmpty = true <;> simp [h, hb]

theorem writeItem_sent (k : Sink) (i : Item) (code : Nat) (h : k.status = some code) :
    (k.writeItem i).snap = k.snap := by
  unfold Sink.writeItem; simp [h]

theorem encodeEnd_sent (c : ClientForm) (e : RespEnd) (b : Bool) (k : Sink) (code : Nat) (h : k.status = some code) :
    (encodeEnd c e b k).snap = k.snap := by
  rcases encodeEnd_eq c e b k with h' | ⟨_, _, h'⟩ <;> rw [h']
  cases c.bodyEnd e b with
  | none => rfl
  | some i => exact writeItem_sent _ _ code h

theorem headSink_snap (w : World) (st : St) (hs : st.sink.status = none) :
    (headSink w st).snap = (addResponseHeaders st.op.cform (clientMeta w st) st.sink).2.hdr ∧
    ∃ code, (headSink w st).status = some code := by
  have h2 := (addResponseHeaders_frame st.op.cform (clientMeta w st) st.sink).2.1.trans hs
  obtain ⟨code, h | ⟨b, h⟩⟩ := headSink_cases w st <;> rw [h]
  · exact ⟨(writeHeader_first _ code h2).1, code, (writeHeader_first _ code h2).2⟩
  · have hw := writeHeader_first _ code h2
    exact ⟨(write_sent _ b code hw.2).1.trans hw.1, code, (write_sent _ b code hw.2).2⟩

theorem flushHeaders_snapshot (w : World) (st : St) (k : Bytes) (hk : RespApp k)
    (hf : st.rw.headersFlushed = false) (hs : st.sink.status = none)
    (ha : EndAvoids (st.rw.respMeta.getD {}).end k) :
    (flushHeaders w st).1.sink.snap.values k = st.sink.hdr.values k := by
  obtain ⟨hsnap, code, hcode⟩ := headSink_snap w st hs
  have h1 := add_response_preserves st.op.cform (clientMeta w st) st.sink k hk ha
  rw [flushHeaders_eq w st hf]
  cases (st.rw.respMeta.getD {}).end with
  | none => simp only; rw [hsnap, h1]
  | some e => simp only; rw [encodeEnd_sent _ _ _ _ code hcode, hsnap, h1]

/-- `st` is a response that is still open and unflushed; its live header map has, for key `k`, the
    values of `h0` (the map as the backend handler left it). -/
structure Pre (k : Bytes) (h0 : Hdr) (st : St) : Prop where
  opened : st.rw.endWritten = false
  unflushed : st.rw.headersFlushed = false
  nostatus : st.sink.status = none
  vals : st.sink.hdr.values k = h0.values k

theorem Pre.rwUpdate {k : Bytes} {h0 : Hdr} {st : St} (h : Pre k h0 st) (r : RW) (he : r.endWritten = st.rw.endWritten)
    (hf : r.headersFlushed = st.rw.headersFlushed) : Pre k h0 { st with rw := r } :=
  ⟨by simp only; rw [he]; exact h.opened, by simp only; rw [hf]; exact h.unflushed, h.nostatus, h.vals⟩

theorem rwPrepareMeta_pre (tb : Tables) (st : St) (status : Nat) (cl : Int) (clText : Bytes) (k : Bytes) (h0 : Hdr)
    (hk : RespApp k) (h : Pre k h0 st) : Pre k h0 (rwPrepareMeta tb st status cl clText).1 := by
  have n : Neutral st (rwPrepareMeta tb st status cl clText).1 := rwPrepareMeta_neutral rfl
  have hv := rwPrepareMeta_preserves tb st status cl clText k hk
  have ho := n.ended.trans h.opened
  unfold HK St.hdr at hv
  simp only [ho, h.opened, Bool.false_eq_true, if_false] at hv
  exact ⟨ho, n.flushed.trans h.unflushed, (congrArg Sink.status n.sink).trans h.nostatus, hv.trans h.vals⟩

theorem endAvoids_none (k : Bytes) : EndAvoids none k := by
  intro x hx; cases hx

theorem rwSetRespComp_pre {k : Bytes} {h0 : Hdr} {st : St} (hp : Pre k h0 st) (comp : Bytes) :
    Pre k h0 (rwSetRespComp st comp) := by
  unfold rwSetRespComp
  split
  · exact hp
  · exact hp.rwUpdate _ rfl rfl

theorem Prepared.pre {tb : Tables} {c : Nat} {st s : St} {k : Bytes} {h0 : Hdr} (hk : RespApp k) (h : Pre k h0 st)
    (p : Prepared tb c st s) : Pre k h0 s := by
  induction p with
  | start => exact h.rwUpdate _ rfl rfl
  | head cl t _ ih => exact rwPrepareMeta_pre tb _ c cl t k h0 hk ih
  | comp z _ ih => exact rwSetRespComp_pre ih z
  | same b _ ih => exact ih.rwUpdate _ rfl rfl

/-- **Response headers reach the client.** The backend handler has filled the header map (`h0` =
    what it holds for key `k`) and the response head goes out (first `WriteHeader`, or the first
    `Write`): whenever that flushes the head without ending the RPC, the head the client receives
    has exactly those values for every application header `k` - whatever the backend's protocol
    headers, declared trailers, content length and compression were, for every client protocol. -/
theorem head_has_application_headers (w : World) (tb : Tables) (st : St) (status : Nat) (k : Bytes) (h0 : Hdr)
    (hk : RespApp k) (hp : Pre k h0 st) (hnew : st.rw.headersWritten = false) :
    (rwWriteHeader w tb st status).1.rw.headersFlushed = true → (rwWriteHeader w tb st status).1.rw.endWritten = false →
    (rwWriteHeader w tb st status).1.sink.snap.values k = h0.values k := by
  have hq := rwWriteHeader_path w tb st status
  generalize rwWriteHeader w tb st status = r at hq
  cases hq with
  | again h => exact absurd (hnew.symm.trans h) nofun
  | ended he => exact absurd (hp.opened.symm.trans he) nofun
  | error => exact fun _ ho => absurd ((reportError_ends w _ _).symm.trans ho) nofun
  | errorBody _ p | buffered p => exact fun hf => absurd ((p.pre hk hp).unflushed.symm.trans hf) nofun
  | trailersOnly p he =>
    exact fun _ ho => absurd ((flushHeaders_ends w _ _ (p.pre hk hp).unflushed he).symm.trans ho) nofun
  | streaming p _ he =>
    have q := p.pre hk hp
    exact fun _ _ => (flushHeaders_snapshot w _ k hk q.unflushed q.nostatus (he.symm ▸ endAvoids_none k)).trans q.vals

end Vanguard
