-- `Frame` walks the same loops: imported so that Lean's auxiliary lemmas for their matches exist once (cf. `Lemmas/Source.lean`)
import Vanguard.Lemmas.Frame
import Vanguard.Lemmas.TwRound
/-!
  The loops of the two body writers end (C11): for `ewLoop` (`envelopingWriter.Write`) and `twLoop`
  (`transformingWriter.Write`) a measure - twice the bytes left, plus one inside a message - falls with
  every round that goes on, so fuel above the measure is never used up (`ewLoop_fuel`, `twLoop_fuel`) and
  the fuel `Write` provides is enough (`ewLoop_enough`, `twLoop_enough`).
  For `twLoop` the decrease is a fact about one round (`twRound_next`, over `twComplete_cases`: how the
  second half of a round can end), and the loop is followed round by round (`twLoop_succ`, `Lemmas/TwRound.lean`).
-/
namespace Vanguard.C11

theorem stable_from {α : Type} (f : Nat → α) (N : Nat) (h : ∀ n, N ≤ n → f n = f (n + 1)) {n m : Nat}
    (hn : N ≤ n) (hm : N ≤ m) : f n = f m := by
  have up : ∀ k, f (N + k) = f N := by
    intro k
    induction k with
    | zero => rfl
    | succ k ih => exact (h _ (Nat.le_add_right N k)).symm.trans ih
  obtain ⟨a, rfl⟩ := Nat.exists_eq_add_of_le hn
  obtain ⟨b, rfl⟩ := Nat.exists_eq_add_of_le hm
  exact (up a).trans (up b).symm

/-- Why both writers' loops end: envelope and message alternate, and the rest of an envelope is at
    least one byte - so a round that goes on has lowered "twice the bytes left, plus one inside a message". -/
theorem phase_drop (b : Bool) {len k : Nat} (hk : k ≤ len) (h1 : b = true → 1 ≤ k) :
    2 * (len - k) + (if (!b) = true then 0 else 1) < 2 * len + (if b = true then 0 else 1) := by
  cases b
  · simp only [Bool.not_false, if_true, Bool.false_eq_true, if_false]; omega
  · have := h1 rfl
    simp only [Bool.not_true, if_true, Bool.false_eq_true, if_false]; omega

theorem ewWritePiece_flags (w : World) (st : St) (e : EW) (piece : Bytes) :
    (ewWritePiece w st e piece).2.1.writingEnvelope = e.writingEnvelope ∧
    (ewWritePiece w st e piece).2.1.remaining = e.remaining := by
  fun_cases ewWritePiece w st e piece <;> exact ⟨rfl, rfl⟩

theorem ewEnvelopeWritten_not_writing (w : World) (st : St) (e : EW) :
    (ewEnvelopeWritten w st e).2.1.writingEnvelope = false := by
  fun_cases ewEnvelopeWritten w st e <;> rfl

def mu (e : EW) (data : Bytes) : Nat := 2 * data.length + (if e.writingEnvelope then 0 else 1)

/-- While an envelope is being collected (and the writer is not latched in an error) at least one
    of its bytes is still missing. -/
def EnvInv (e : EW) : Prop := e.err = false → e.writingEnvelope = true → 1 ≤ e.remaining

theorem EnvInv.of_not_writing {e : EW} (h : e.writingEnvelope = false) : EnvInv e :=
  fun _ hw => by rw [h] at hw; cases hw

theorem EnvInv.latched {e : EW} (h : e.err = true) : EnvInv e :=
  fun he => by rw [h] at he; cases he

theorem mu_next {e e' : EW} {data : Bytes} (hinv : EnvInv e) (he : e.err = false)
    (hge : ¬ (data.length : Int) < e.remaining) (hflip : e'.writingEnvelope = !e.writingEnvelope) :
    mu e' (data.drop e.remaining.toNat) < mu e data := by
  unfold mu
  rw [hflip, List.length_drop]
  exact phase_drop _ (by omega) fun hw => by have := hinv he hw; omega

theorem ewLoop_err (w : World) (tb : Tables) (n : Nat) (st : St) (e : EW) (d : Bytes) (h : e.err = true) :
    ewLoop w tb (n + 1) st e d = (st, e, true, false) := by
  unfold ewLoop; simp [h]

theorem ewLoop_fuel (w : World) (tb : Tables) : ∀ (n : Nat) (st : St) (e : EW) (data : Bytes),
    EnvInv e → mu e data < n → ewLoop w tb n st e data = ewLoop w tb (n + 1) st e data := by
  intro n
  induction n with
  | zero => intro _ _ _ _ h; omega
  | succ m ih =>
    intro st e data hinv hmu
    -- Both sides unfold to the same round and differ in the fuel of the recursive calls only:
    -- a congruence, down to those calls.
    unfold ewLoop
    refine ite_congr rfl (fun _ => rfl) fun herr => ?_
    refine ite_congr rfl (fun _ => rfl) fun hge => ?_
    have hnext := fun e' h =>
      Nat.lt_of_lt_of_le (mu_next (e' := e') hinv (by simpa using herr) hge h) (Nat.le_of_lt_succ hmu)
    extract_lets k rest
    split
    next s1 e1 f1 p1 x1 =>
    have hf := (ewWritePiece_flags w st e (data.take k)).1
    simp only [x1] at hf
    extract_lets e1' e2 e3 s1'
    refine ite_congr rfl (fun _ => rfl) fun _ => ?_
    refine ite_congr rfl (fun hw => ?_) fun hw => ?_
    · -- an envelope is complete
      split
      next s2 e2 f2 p2 x2 =>
      have hnw := ewEnvelopeWritten_not_writing w s1 e1'
      simp only [x2] at hnw
      refine ite_congr rfl (fun _ => rfl) fun _ => ?_
      exact ih _ _ _ (.of_not_writing hnw) (hnext _ (by rw [hnw, ← hf]; exact (congrArg not hw).symm))
    have hwe : e.writingEnvelope = false := hf ▸ (Bool.not_eq_true _).mp hw
    refine ite_congr rfl (fun _ => ?_) fun _ => ?_
    · split
      · split
        refine ite_congr rfl (fun _ => rfl) fun _ => ?_
        refine ite_congr rfl (fun _ => rfl) fun _ => ?_
        -- the end of the stream was handled: the writer is latched, the next round returns at once
        obtain ⟨m', rfl⟩ : ∃ m', m = m' + 1 :=
          ⟨m - 1, by unfold mu at hmu; simp only [hwe, Bool.false_eq_true, if_false] at hmu; omega⟩
        rw [ewLoop_err w tb m' _ _ _ rfl, ewLoop_err w tb (m' + 1) _ _ _ rfl]
      · rfl
    · exact ih _ _ _ (fun _ _ => (by decide : (1 : Int) ≤ 5)) (hnext _ (by rw [hwe]; rfl))

theorem ewLoop_enough (w : World) (tb : Tables) (st : St) (e : EW) (data : Bytes) (hinv : EnvInv e) :
    ∀ k, ewLoop w tb (2 * data.length + 4 + k) st e data = ewLoop w tb (2 * data.length + 4) st e data :=
  fun k => stable_from (ewLoop w tb · st e data) _
    (fun n hn => ewLoop_fuel w tb n st e data hinv (by unfold mu; split <;> omega))
    (Nat.le_add_right _ k) (Nat.le_refl _)

/-- `maybeInit` establishes the invariant for an enveloped backend (as a lemma: `ewInit_safe`, Props/C11.lean). -/
example : EnvInv { writingEnvelope := true, remaining := 5 } := by intro _ _; decide

/-- The invariant the termination argument needs is kept by the loop itself, so it holds before
    every later `Write` of the same response as well. -/
theorem ewLoop_keeps_inv (w : World) (tb : Tables) : ∀ (n : Nat) (st : St) (e : EW) (data : Bytes),
    EnvInv e → EnvInv (ewLoop w tb n st e data).2.1 := by
  intro n st e data hinv
  fun_induction ewLoop w tb n st e data
  case case1 | case2 => exact hinv
  case case3 st e data herr hlt _ e1 _ _ x _ =>
    -- the piece ends inside the envelope: something is still missing
    have hf := ewWritePiece_flags w st e data
    rw [x] at hf
    intro _ hw
    have := hinv (by simpa using herr) (hf.1 ▸ hw)
    show 1 ≤ e1.remaining - _
    rw [hf.2]; omega
  case case4 | case8 => exact .latched rfl
  case case5 x _ => exact .of_not_writing (x ▸ ewEnvelopeWritten_not_writing w _ _ :)
  case case6 x _ ih => exact ih (.of_not_writing (x ▸ ewEnvelopeWritten_not_writing w _ _ :))
  case case7 | case10 => exact .of_not_writing (by simpa using ‹¬(_ : EW).writingEnvelope = true›)
  case case9 ih => exact ih (.latched rfl)
  case case11 ih => exact ih fun _ _ => (by decide : (1 : Int) ≤ 5)

def muT (t : TW) (data : Bytes) : Nat := 2 * data.length + (if t.writingEnvelope then 0 else 1)

/-- While an envelope is being collected (and the writer is not latched) it expects five bytes and
    has fewer than five of them. -/
def TwInv (t : TW) : Prop :=
  t.err = false → t.writingEnvelope = true → t.expecting = 5 ∧ (t.buffer.getD []).length < 5

theorem TwInv.of_not_writing {t : TW} (h : t.writingEnvelope = false) : TwInv t :=
  fun _ hw => by rw [h] at hw; cases hw

theorem muT_next {t t' : TW} {data : Bytes} (hinv : TwInv t) (he : t.err = false)
    (hge : ¬ (data.length : Int) < t.expecting - ((t.buffer.getD []).length : Int))
    (hflip : t'.writingEnvelope = !t.writingEnvelope) :
    muT t' (data.drop (t.expecting - ((t.buffer.getD []).length : Int)).toNat) < muT t data := by
  unfold muT
  rw [hflip, List.length_drop]
  exact phase_drop _ (by omega) fun hw => by have := hinv he hw; omega

theorem muT_lt (t : TW) (d : Bytes) : muT t d < 2 * d.length + 4 := by
  unfold muT; split <;> omega

theorem twLoop_err (w : World) (tb : Tables) (n : Nat) (st : St) (t : TW) (d : Bytes) (h : t.err = true) :
    twLoop w tb (n + 1) st t d = (st, t, true, false) := by
  unfold twLoop; simp [h]

theorem twFlushMessage_spec {w : World} {tb : Tables} {st : St} {t : TW} {r : St × TW × Option Err × Bool}
    (x : twFlushMessage w tb st t = r) :
    r.2.2.2 = false ∧
    (r.2.1 = t ∧ r.2.2.1.isSome = true ∨ r.2.1 = { t with err := true } ∨ r.2.1 = twReset r.1 t) := by
  subst x
  fun_cases twFlushMessage w tb st t
  case case1 x h =>
    cases (x ▸ handleEndMessage_no_panic w tb st _ _ false :)
    exact ⟨rfl, .inl ⟨rfl, by simpa using h⟩⟩
  case case2 => exact ⟨rfl, .inr (.inl rfl)⟩
  case case3 => exact ⟨rfl, .inl ⟨rfl, rfl⟩⟩
  case case4 s1 err p latched x h =>
    -- the message was too long, or its envelope did not go out
    have : p = false ∧ (latched = true → err.isSome = true) := by
      cases twEnvelope_cases x with
      | tooLong | noEnvelopes => exact ⟨rfl, nofun⟩
      | sent hd => exact ⟨hd ▸ writeDown_no_panic w st _, fun h => by rw [if_pos h]; rfl⟩
    cases this.1
    cases latched
    · exact ⟨rfl, .inl ⟨by simp, by simpa using h⟩⟩
    · exact ⟨rfl, .inr (.inl (by simp))⟩
  case case5 x _ => exact ⟨(x ▸ writeDown_no_panic w _ _ :), .inr (.inl rfl)⟩
  case case6 => exact ⟨rfl, .inr (.inr rfl)⟩

theorem twFlushMessage_next {w : World} {tb : Tables} {st : St} {t : TW} {r : St × TW × Option Err × Bool}
    (x : twFlushMessage w tb st t = r) (hn : r.2.2.1 = none) :
    TwInv { r.2.1 with expecting := 5, writingEnvelope := true } := by
  intro he _
  refine ⟨rfl, ?_⟩
  rcases (twFlushMessage_spec x).2 with h | h | h
  · rw [hn] at h; cases h.2
  · rw [h] at he; cases he
  · rw [h, twReset_buffer]; decide

theorem twReset_inv (st : St) (t : TW) (hw : t.writingEnvelope = false) : TwInv (twReset st t) := by
  unfold twReset
  split
  · intro _ _; exact ⟨rfl, by simp⟩
  · exact .of_not_writing hw

theorem twFlushMessage_writer_inv {w : World} {tb : Tables} {st : St} {t : TW} {r : St × TW × Option Err × Bool}
    (x : twFlushMessage w tb st t = r) (hw : t.writingEnvelope = false) : TwInv r.2.1 := by
  rcases (twFlushMessage_spec x).2 with h | h | h
  · rw [h.1]; exact .of_not_writing hw
  · rw [h]; exact .of_not_writing hw
  · rw [h]; exact twReset_inv _ t hw

theorem twFlushMessage_keeps {w : World} {tb : Tables} {st : St} {t : TW} {r : St × TW × Option Err × Bool}
    (x : twFlushMessage w tb st t = r) : r.2.1.latest = t.latest ∧ (t.buffer.isSome = true → r.2.1.buffer.isSome = true) := by
  rcases (twFlushMessage_spec x).2 with ⟨h, _⟩ | h | h <;> rw [h]
  · exact ⟨rfl, id⟩
  · exact ⟨rfl, id⟩
  · exact ⟨twReset_latest _ _, fun _ => by rw [twReset_buffer]; rfl⟩

theorem twFlushMessage_latched {w : World} {tb : Tables} {st : St} {t : TW} {r : St × TW × Option Err × Bool}
    (x : twFlushMessage w tb st t = r) (htr : t.latest.trailer = true) (hn : r.2.2.1 = none) (hp : r.2.2.2 = false) :
    r.2.1.err = true := by
  subst x
  revert hn hp
  unfold twFlushMessage
  extract_lets data
  rw [if_pos htr]
  generalize handleEndMessage w tb st t.latest.compressed data false = r
  obtain ⟨s1, err, p⟩ := r
  cases err with
  | some e => nofun
  | none =>
    cases p with
    | true => nofun
    | false => exact fun _ _ => rfl

theorem twComplete_cases (w : World) (tb : Tables) (st : St) (t : TW) (rest : Bytes) :
    (∃ s t1, twComplete w tb st t rest = .next s t1 rest ∧ TwInv t1 ∧ t1.writingEnvelope = !t.writingEnvelope) ∨
    (∃ s t1, twComplete w tb st t rest = .done (s, t1, false, false) ∧ t1.err = true ∧ t.writingEnvelope = false) ∨
    (∃ s t1 p, twComplete w tb st t rest = .done (s, t1, true, p)) := by
  fun_cases twComplete w tb st t rest
  -- an envelope is accepted: on to its message
  case case3 => exact .inl ⟨_, _, rfl, .of_not_writing rfl, by rw [‹t.writingEnvelope = true›]; rfl⟩
  -- a message is flushed, and it is not the end-of-stream message or bytes follow: on to the next envelope
  case case8 =>
    exact .inl ⟨_, _, rfl, twFlushMessage_next ‹twFlushMessage _ _ _ _ = _› rfl,
      by rw [(Bool.not_eq_true _).mp ‹¬ t.writingEnvelope = true›]; rfl⟩
  -- the end-of-stream message is flushed and no bytes follow: the call ends without error
  case case7 s1 t1 _ _ =>
    have h := ‹twFlushMessage _ _ _ _ = _›
    have htr := (Bool.and_eq_true_iff.mp ‹(t1.latest.trailer && rest.isEmpty) = true›).1
    exact .inr (.inl ⟨_, _, rfl, twFlushMessage_latched h ((twFlushMessage_keeps h).1 ▸ htr) rfl rfl,
      (Bool.not_eq_true _).mp ‹¬ t.writingEnvelope = true›⟩)
  -- the call fails: the envelope is rejected (undecodable, too long) or is not five bytes; the flush panics or fails
  all_goals exact .inr (.inr ⟨_, _, _, rfl⟩)

theorem twRound_next (w : World) (tb : Tables) {st s : St} {t t1 : TW} {d rest : Bytes} (hinv : TwInv t)
    (h : twRound w tb st t d = .next s t1 rest) : TwInv t1 ∧ muT t1 rest < muT t d := by
  by_cases herr : t.err = true
  · rw [twRound, if_pos herr] at h; cases h
  by_cases hneg : t.missing < 0
  · rw [twRound, if_neg herr, if_pos hneg] at h; cases h
  by_cases hlt : (d.length : Int) < t.missing
  · rw [twRound, if_neg herr, if_neg hneg, if_pos hlt] at h; cases h
  rw [twRound, if_neg herr, if_neg hneg, if_neg hlt] at h
  rcases twComplete_cases w tb st (t.filled d) (d.drop t.missing.toNat) with ⟨_, _, hR, hinv1, hflip⟩ | ⟨_, _, hR, -⟩ | ⟨_, _, _, hR⟩ <;>
    cases hR.symm.trans h
  exact ⟨hinv1, muT_next hinv (by simpa using herr) hlt hflip⟩

theorem twLoop_fuel (w : World) (tb : Tables) : ∀ (n : Nat) (st : St) (t : TW) (data : Bytes),
    TwInv t → muT t data < n → twLoop w tb n st t data = twLoop w tb (n + 1) st t data := by
  intro n
  induction n with
  | zero => intro _ _ _ _ h; omega
  | succ m ih =>
    intro st t data hinv hmu
    -- a round that ends the call does not look at the fuel; one that goes on has lowered the measure
    rw [twLoop_succ, twLoop_succ]
    cases hR : twRound w tb st t data with
    | done r => rfl
    | next s t1 rest =>
      obtain ⟨hinv1, hlt⟩ := twRound_next w tb hinv hR
      exact ih s t1 rest hinv1 (by omega)

theorem twLoop_enough (w : World) (tb : Tables) (st : St) (t : TW) (data : Bytes) (hinv : TwInv t) :
    ∀ k, twLoop w tb (2 * data.length + 4 + k) st t data = twLoop w tb (2 * data.length + 4) st t data :=
  fun k => stable_from (twLoop w tb · st t data) _
    (fun n hn => twLoop_fuel w tb n st t data hinv (by unfold muT; split <;> omega))
    (Nat.le_add_right _ k) (Nat.le_refl _)

/-- `reset` establishes the invariant (enveloped backend: expecting five bytes, nothing buffered; as a lemma: `twReset_inv`). -/
example : TwInv { buffer := some [], expecting := 5, writingEnvelope := true } := by
  intro _ _; exact ⟨rfl, by decide⟩

/-- The invariant is kept by the loop itself (unless the handler's goroutine panicked, after which
    nothing runs any more), so it holds before every later `Write` of the same response. -/
theorem twLoop_keeps_inv (w : World) (tb : Tables) : ∀ (n : Nat) (st : St) (t : TW) (data : Bytes),
    TwInv t → (twLoop w tb n st t data).2.2.2 = false → TwInv (twLoop w tb n st t data).2.1 := by
  intro n st t data hinv
  fun_induction twLoop w tb n st t data
  case case1 | case3 | case8 | case9 => nofun
  case case2 => exact fun _ => hinv
  case case4 t data _ got remaining _ hlt =>
    -- the piece ends inside the envelope: fewer than five bytes are there
    intro _ he hw
    obtain ⟨hexp, hgot⟩ := hinv he hw
    refine ⟨hexp, ?_⟩
    simp only [remaining, got, show t.expecting = 5 from hexp] at hlt
    simp only [Option.getD_some, List.length_append]
    omega
  case case5 | case6 => exact fun _ he hw => ⟨(hinv he hw).1, (by decide : 0 < 5)⟩
  case case7 ih => exact ih (.of_not_writing rfl)
  case case10 | case11 =>
    exact fun _ => twFlushMessage_writer_inv ‹twFlushMessage w tb _ _ = _›
      (by simpa using ‹¬(_ : TW).writingEnvelope = true›)
  case case12 x _ _ hnone ih =>
    exact ih (twFlushMessage_next x (Option.eq_none_iff_forall_ne_some.mpr hnone))

end Vanguard.C11
