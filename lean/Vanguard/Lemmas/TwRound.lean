import Vanguard.Model.Serve
import Vanguard.Lemmas.List
/-! The loop of `transformingWriter.Write` as a sequence of rounds (`twRound`, `twLoop_succ`): a round is a function
  of the bytes, so two runs on related bytes can be compared round by round (`Lemmas/WriteSplit.lean`), and a run on
  known bytes can be followed round by round (`Lemmas/RespStream.lean`).  Properties of every run need none of
  this: `fun_induction twLoop` gives the paths of a round.  Also here: what `reset` leaves alone (`twReset_*`). -/
namespace Vanguard

theorem twReset_latest (st : St) (t : TW) : (twReset st t).latest = t.latest := by unfold twReset; split <;> rfl
theorem twReset_buffer (st : St) (t : TW) : (twReset st t).buffer = some [] := by unfold twReset; split <;> rfl
theorem twReset_err (st : St) (t : TW) : (twReset st t).err = t.err := by unfold twReset; split <;> rfl

/-- What the writer has still to get of the envelope or message in progress. -/
def TW.missing (t : TW) : Int := t.expecting - ((t.buffer.getD []).length : Int)

/-- The writer after the bytes that complete the envelope or message in progress went into its buffer. -/
def TW.filled (t : TW) (d : Bytes) : TW := { t with buffer := some (t.buffer.getD [] ++ d.take t.missing.toNat) }

/-- What one round of a `Write` loop leaves: the result of the call, or a state to go on from with the
    bytes not yet looked at. -/
inductive Round (σ : Type) where
  | done (r : St × σ × Bool × Bool)
  | next (st : St) (s : σ) (rest : Bytes)

def Round.run {σ : Type} (loop : St → σ → Bytes → St × σ × Bool × Bool) : Round σ → St × σ × Bool × Bool
  | .done r => r
  | .next st s rest => loop st s rest

/-- The second half of a round: the envelope or message in progress is complete in the buffer of `t`;
    `rest` are the bytes after it. -/
def twComplete (w : World) (tb : Tables) (st : St) (t : TW) (rest : Bytes) : Round TW :=
  if t.writingEnvelope then
    match st.op.serverEnveloper, t.buffer with
    | some se, some [f, a, b, c, e] =>
      match se.decode f a b c e with
      | none => .done ((reportError w st (.rpc 3)).1, { t with buffer := some [] }, true, (reportError w st (.rpc 3)).2)
      | some env =>
        if env.length > st.op.conf.maxMsg then
          .done ((reportError w st (.rpc 8)).1, { t with buffer := some [], latest := env }, true, (reportError w st (.rpc 8)).2)
        else .next st { t with buffer := some [], expecting := env.length, writingEnvelope := false,
                               msgCompressed := env.compressed, latest := env } rest
    | _, _ => .done (st, t, true, true)
  else
    match twFlushMessage w tb st t with
    | (s1, t1, _, true) => .done (s1, t1, true, true)
    | (s1, t1, some e, false) => .done ((reportError w s1 e).1, t1, true, (reportError w s1 e).2)
    | (s1, t1, none, false) =>
      if t1.latest.trailer && rest.isEmpty then .done (s1, t1, false, false)
      else .next s1 { t1 with expecting := 5, writingEnvelope := true } rest

def twRound (w : World) (tb : Tables) (st : St) (t : TW) (d : Bytes) : Round TW :=
  if t.err then .done (st, t, true, false)
  else if t.missing < 0 then .done (st, t, true, true)
  else if (d.length : Int) < t.missing then .done (st, { t with buffer := some (t.buffer.getD [] ++ d) }, false, false)
  else twComplete w tb st (t.filled d) (d.drop t.missing.toNat)

/-- A test on the left is the same test under `f` on the right, if the branches agree. -/
theorem ite_eq_apply_ite {α β : Type} (f : α → β) {c : Prop} [Decidable c] {x y : β} {a b : α}
    (hx : c → x = f a) (hy : ¬ c → y = f b) : (if c then x else y) = f (if c then a else b) := by
  by_cases h : c
  · rw [if_pos h, if_pos h]; exact hx h
  · rw [if_neg h, if_neg h]; exact hy h

theorem twLoop_succ (w : World) (tb : Tables) (n : Nat) (st : St) (t : TW) (d : Bytes) :
    twLoop w tb (n + 1) st t d = (twRound w tb st t d).run (twLoop w tb n) := by
  -- both sides are the same case analysis: `run` goes through it down to the leaves
  rw [twLoop, twRound]
  refine ite_eq_apply_ite _ (fun _ => rfl) fun _ => ite_eq_apply_ite _ (fun _ => rfl) fun _ =>
    ite_eq_apply_ite _ (fun _ => rfl) fun _ => ?_
  -- the second half of the round: name the filled writer and the bytes after it, and forget what they are
  extract_lets k t' rest t0
  rw [show t.filled d = t' from rfl, show d.drop t.missing.toNat = rest from rfl]
  clear_value t' rest
  rw [twComplete]
  refine ite_eq_apply_ite _ (fun _ => ?_) fun _ => ?_
  · -- an envelope is complete: both sides match on the same two values
    split
    next se f a b c e hse hbuf =>
      rw [hse, hbuf]
      dsimp only
      cases se.decode f a b c e with
      | none => rfl
      | some env => exact ite_eq_apply_ite _ (fun _ => rfl) fun _ => rfl
    next hno =>
      split
      next se f a b c e hse hbuf => exact (hno se f a b c e hse hbuf).elim
      next => rfl
  · -- a message is complete
    generalize twFlushMessage w tb st t' = r
    obtain ⟨s1, t1, err, p⟩ := r
    cases p with
    | true => rfl
    | false =>
      cases err with
      | some e => rfl
      | none =>
        dsimp only
        rw [if_neg Bool.false_ne_true]
        exact ite_eq_apply_ite _ (fun _ => rfl) fun _ => rfl

section
variable {w : World} {tb : Tables} {st : St} {t : TW}

theorem twRound_short {d : Bytes} (herr : t.err = false) (hlt : (d.length : Int) < t.missing) :
    twRound w tb st t d = .done (st, { t with buffer := some (t.buffer.getD [] ++ d) }, false, false) := by
  rw [twRound, if_neg (ne_true_of_eq_false herr), if_neg (Int.not_lt.mpr (Int.le_trans (Int.natCast_nonneg _) (Int.le_of_lt hlt))),
    if_pos hlt]

theorem twRound_whole {a rest : Bytes} (herr : t.err = false) (hbuf : t.buffer = some []) (hexp : t.expecting = a.length) :
    twRound w tb st t (a ++ rest) = twComplete w tb st { t with buffer := some a } rest := by
  have hm : t.missing = a.length := by rw [TW.missing, hbuf, hexp]; exact Int.sub_zero _
  rw [twRound, if_neg (ne_true_of_eq_false herr), TW.filled, hm, if_neg (Int.not_lt.mpr (Int.natCast_nonneg _)),
    if_neg (Int.not_lt.mpr (Int.ofNat_le.mpr (List.length_append ▸ Nat.le_add_right _ _))),
    Int.toNat_natCast, List.take_left' rfl, List.drop_left' rfl, hbuf]
  rfl

end

end Vanguard
