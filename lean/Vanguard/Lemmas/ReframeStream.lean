import Vanguard.Lemmas.Chunking
import Vanguard.Lemmas.Envelope
namespace Vanguard

/-!
  # The re-framing reader (`envelopingReader`) as a function of the client's bytes

  For a client and a backend that both frame their messages: what the backend handler reads is a
  function of the client's body alone - `msgsSpec`: for every client frame the backend's envelope
  followed by the untouched payload - whatever the sizes of the handler's `Read` calls and however the
  body arrives in pieces.
-/

/-- The stream of re-framed messages read from `data` at a message boundary, and how it ends.  Unlike `cutFrame` it
    checks neither the trailer flag nor the message limit: it mirrors `envelopingReader` (`erPrepareNext`), which does not. -/
def msgsSpec (ce se : Enveloper) (ending : SrcEnd) (data : Bytes) : Bytes × Err :=
  match data with
  | f :: a :: b :: c :: d :: rest =>
    match ce.decode f a b c d with
    | none => ([], .rpc 3)
    | some env =>
      if env.length ≤ rest.length then
        ((se.encode env ++ rest.take env.length ++ (msgsSpec ce se ending (rest.drop env.length)).1),
         (msgsSpec ce se ending (rest.drop env.length)).2)
      else (se.encode env ++ rest, .unexpectedEOF)
  | short => ([], shortErr ending short)
termination_by data.length
decreasing_by simp only [List.length_drop, List.length_cons]; omega

def ER.pending (r : ER) : Bytes := if r.envRemain > 0 then r.env.drop (5 - r.envRemain) else []
def ER.left (r : ER) : Nat := match r.current with | .limited k => k | _ => 0

/-- States of the reader for a client with envelopes. -/
structure ER.WF (r : ER) : Prop where
  cur : r.current = .none ∨ ∃ k, r.current = .limited k
  env : r.envRemain > 0 → r.envRemain ≤ 5 ∧ r.env.length = 5

/-- The stream from the middle of a message: `k` bytes of it are still to come, then further messages. -/
def bodySpec (ce se : Enveloper) (ending : SrcEnd) (k : Nat) (data : Bytes) : Bytes × Err :=
  if k ≤ data.length then
    (data.take k ++ (msgsSpec ce se ending (data.drop k)).1, (msgsSpec ce se ending (data.drop k)).2)
  else (data, .unexpectedEOF)

theorem bodySpec_zero (ce se : Enveloper) (ending : SrcEnd) (data : Bytes) :
    bodySpec ce se ending 0 data = msgsSpec ce se ending data := by
  simp [bodySpec]

def prepend (b : Bytes) (x : Bytes × Err) : Bytes × Err := (b ++ x.1, x.2)

theorem prepend_nil (x : Bytes × Err) : prepend [] x = x := by simp [prepend]
theorem prepend_prepend (a b : Bytes) (x : Bytes × Err) : prepend a (prepend b x) = prepend (a ++ b) x := by
  simp [prepend, List.append_assoc]

/-- The rest of the stream from a state of the reader: what is left of the backend's envelope, what is
    left of the message, then the further messages. -/
def erSpec (ce se : Enveloper) (st : St) (r : ER) : Bytes × Err :=
  prepend r.pending (bodySpec ce se st.src.ending r.left st.src.data)

theorem msgsSpec_cons (ce se : Enveloper) (ending : SrcEnd) (f a b c d : UInt8) (rest : Bytes) (env : Envelope)
    (h : ce.decode f a b c d = some env) :
    msgsSpec ce se ending (f :: a :: b :: c :: d :: rest) = prepend (se.encode env) (bodySpec ce se ending env.length rest) := by
  rw [msgsSpec]
  simp only [h]
  unfold bodySpec prepend
  split
  · simp [List.append_assoc]
  · rfl

theorem msgsSpec_bad (ce se : Enveloper) (ending : SrcEnd) (f a b c d : UInt8) (rest : Bytes)
    (h : ce.decode f a b c d = none) :
    msgsSpec ce se ending (f :: a :: b :: c :: d :: rest) = ([], .rpc 3) := by
  rw [msgsSpec]
  simp only [h]

theorem msgsSpec_short (ce se : Enveloper) (ending : SrcEnd) (data : Bytes) (h : data.length < 5) :
    msgsSpec ce se ending data = ([], shortErr ending data) := by
  rw [msgsSpec]
  intro f a b c d rest hd
  rw [hd] at h
  exact absurd h (Nat.not_lt.mpr (Nat.le_add_left 5 _))

theorem bodySpec_cut (ce se : Enveloper) (ending : SrcEnd) {k : Nat} {data : Bytes} (h : data.length < k) :
    bodySpec ce se ending k data = (data, .unexpectedEOF) := if_neg (Nat.not_le.mpr h)

theorem bodySpec_take (ce se : Enveloper) (ending : SrcEnd) (k : Nat) (b rest : Bytes) (hb : b.length ≤ k) :
    bodySpec ce se ending k (b ++ rest) = prepend b (bodySpec ce se ending (k - b.length) rest) := by
  unfold bodySpec prepend
  rw [List.length_append]
  by_cases h : k ≤ b.length + rest.length
  · rw [if_pos h, if_pos (Nat.sub_le_iff_le_add'.mpr h), List.take_append, List.take_of_length_le hb, List.drop_append,
      List.drop_of_length_le hb, List.nil_append, List.append_assoc]
  · rw [if_neg h, if_neg (mt Nat.sub_le_iff_le_add'.mp h)]

theorem prepareNext_enveloped {w : World} {st : St} {r : ER} {ce se : Enveloper} {res : Option Err × St × ER × Bool}
    (x : erPrepareNext w st r = res) (hce : st.op.clientEnveloper = some ce) (hse : st.op.serverEnveloper = some se) :
    res.2.2.2 = false ∧
    (∀ e, res.1 = some e → msgsSpec ce se st.src.ending st.src.data = ([], e)) ∧
    (res.1 = none → ∃ env,
      res.2.2.1 = { r with current := .limited env.length, envRemain := 5, env := se.encode env } ∧
      res.2.1.op = st.op ∧ res.2.1.src.ending = st.src.ending ∧ res.2.1.src.data.length + 5 = st.src.data.length ∧
      msgsSpec ce se st.src.ending st.src.data
        = prepend (se.encode env) (bodySpec ce se st.src.ending env.length res.2.1.src.data)) := by
  subst x
  fun_cases erPrepareNext w st r
  case case7 o ce' hce' hd s1 st1 err x =>
    -- fewer than five bytes are left
    obtain ⟨-, hlt, rfl, -⟩ := readExactly_err x
    exact ⟨rfl, fun e h => Option.some.inj h ▸ msgsSpec_short ce se _ _ hlt, nofun⟩
  case case8 o ce' hce' s1 st1 f a b c d hdec st2 p x2 x =>
    obtain rfl := Option.some.inj (hce'.symm.trans hce)
    rw [(readExactly_ok x).1]
    exact ⟨(x2 ▸ reportError_no_panic w st1 (.rpc 3) :), fun e h => Option.some.inj h ▸ msgsSpec_bad ce' se _ f a b c d _ hdec, nofun⟩
  case case9 o finish ce' hce' s1 st1 f a b c d env hdec x =>
    obtain rfl := Option.some.inj (hce'.symm.trans hce)
    obtain ⟨hdata, -, hend⟩ := readExactly_ok x
    dsimp only [finish]
    rw [show o.serverEnveloper = some se from hse]
    refine ⟨rfl, nofun, fun _ => ⟨env, rfl, rfl, hend, by rw [hdata]; rfl, ?_⟩⟩
    rw [hdata]
    exact msgsSpec_cons ce' se _ f a b c d _ env hdec
  case case10 hd _ _ hno x =>
    obtain ⟨f, a, b, c, d, h5⟩ := readExactly_five x
    exact absurd h5 (hno f a b c d)
  -- a client without envelopes: not this one (`with_reducible` as in `readRequestMessage_enveloped`)
  all_goals exact absurd (hce.symm.trans (show _ = none by with_reducible assumption)) nofun

/-- What one `Read` must satisfy against the specification: without error it hands out a prefix of the
    stream and leaves a state whose stream is the rest; with an error the stream ends there, with it. -/
def EStepOk (ce se : Enveloper) (st : St) (spec : Bytes × Err) (x : Bytes × Option Err × St × ER × Bool) : Prop :=
  x.2.2.2.2 = false ∧
  (x.2.1 = none → x.2.2.2.1.WF ∧ x.2.2.2.1.err = none ∧ x.2.2.1.op = st.op ∧
      spec = prepend x.1 (erSpec ce se x.2.2.1 x.2.2.2.1)) ∧
  (∀ e, x.2.1 = some e → spec = (x.1, e))

theorem take_drop_env (env : Bytes) (n : Nat) : env = env.take n ++ env.drop n := (List.take_append_drop n env).symm

/-- Bytes are conserved by a `Read` that reports no error: what is handed out, what is still pending of the
    backend's envelope and what is left of the client's body add up to what was pending and left before. -/
def Conserves (pending : Nat) (st : St) (x : Bytes × Option Err × St × ER × Bool) : Prop :=
  x.2.1 = none → x.1.length + x.2.2.2.1.pending.length + x.2.2.1.src.data.length = pending + st.src.data.length

/-- A `Read` that hands out `b` of the pending envelope bytes `P` and nothing else. -/
theorem EStep.hand_env {ce se : Enveloper} {st0 st' : St} {r' : ER} {P b : Bytes} {k pend0 : Nat}
    (hwf : r'.WF) (herr : r'.err = none) (hop : st'.op = st0.op) (hP : P = b ++ r'.pending) (hleft : r'.left = k)
    (hcons : P.length + st'.src.data.length = pend0 + st0.src.data.length) :
    EStepOk ce se st0 (prepend P (bodySpec ce se st'.src.ending k st'.src.data)) (b, none, st', r', false) ∧
    Conserves pend0 st0 (b, none, st', r', false) := by
  refine ⟨⟨rfl, fun _ => ⟨hwf, herr, hop, by rw [erSpec, hleft, hP, prepend_prepend]⟩, nofun⟩, fun _ => ?_⟩
  rw [hP, List.length_append] at hcons
  exact hcons

/-- A `Read` that hands out what was pending of the envelope, `P`, and then `B` off the body, of whose message
    `k` bytes were still to come. -/
theorem EStep.hand_body {ce se : Enveloper} {st0 st' : St} {r' : ER} {P B data : Bytes} {ending : SrcEnd} {k pend0 : Nat}
    (hwf : r'.WF) (herr : r'.err = none) (hop : st'.op = st0.op) (hpend : r'.pending = []) (hleft : r'.left = k - B.length)
    (hB : B.length ≤ k) (hdata : B ++ st'.src.data = data) (hend : st'.src.ending = ending)
    (hcons : P.length + data.length = pend0 + st0.src.data.length) :
    EStepOk ce se st0 (prepend P (bodySpec ce se ending k data)) (P ++ B, none, st', r', false) ∧
    Conserves pend0 st0 (P ++ B, none, st', r', false) := by
  subst hdata
  refine ⟨⟨rfl, fun _ => ⟨hwf, herr, hop, ?_⟩, nofun⟩, fun _ => ?_⟩
  · rw [erSpec, hpend, hleft, hend, bodySpec_take ce se ending k B _ hB, prepend_prepend, prepend_nil]
  · rw [List.length_append] at hcons
    rw [hpend, List.length_append, List.length_nil, Nat.add_zero, Nat.add_assoc]
    exact hcons

theorem EStep.fail {ce se : Enveloper} {st0 st' : St} {r' : ER} {b : Bytes} {e : Err} {spec : Bytes × Err} {pend0 : Nat}
    (h : spec = (b, e)) :
    EStepOk ce se st0 spec (b, some e, st', r', false) ∧ Conserves pend0 st0 (b, some e, st', r', false) :=
  ⟨⟨rfl, nofun, fun _ he => Option.some.inj he ▸ h⟩, nofun⟩

/-- Phase 2 of `Read`: the next message is announced and the read answered from it (`st0`: the state the
    `Read` started from, which phase 1 left alone but for the pieces of the body). -/
theorem erPhase2_step (w : World) (ce se : Enveloper) (st0 st : St) (r : ER) (n : Nat)
    (hce : st.op.clientEnveloper = some ce) (hse : st.op.serverEnveloper = some se) (herr : r.err = none)
    (hop0 : st.op = st0.op) (hlen0 : st.src.data.length = st0.src.data.length) :
    EStepOk ce se st0 (msgsSpec ce se st.src.ending st.src.data) (erPhase2 w st r n) ∧ Conserves 0 st0 (erPhase2 w st r n) := by
  fun_cases erPhase2 w st r n
  case case1 x => cases (prepareNext_enveloped x hce hse).1     -- `erPrepareNext` panicked: not with this client
  case case2 s1 r1 p hp err x =>
    -- no next message: the body has ended or is cut, or the envelope is rejected
    exact EStep.fail ((prepareNext_enveloped x hce hse).2.1 err rfl)
  case case3 s1 r1 p hp hlt x =>
    -- part of the envelope
    obtain ⟨env, rfl, hop, hend, hlen, hspec⟩ := (prepareNext_enveloped x hce hse).2.2 rfl
    dsimp only at hop hend hlen hspec hlt ⊢
    rw [hspec, ← hend]
    refine EStep.hand_env ⟨.inr ⟨_, rfl⟩, fun _ => ⟨Nat.sub_le .., rfl⟩⟩ herr (hop.trans hop0) ?_ rfl
      (by rw [encode_length, Nat.zero_add, Nat.add_comm, hlen, hlen0])
    exact pending_split _ 5 n (encode_length se env) (Nat.le_refl 5) (Nat.le_of_lt hlt)
  case case4 s1 r1 p hp hge envPart r2 hgt b e s2 cur p2 x2 e2 x =>
    -- the envelope and a first part of the message
    obtain ⟨env, rfl, hop, hend, hlen, hspec⟩ := (prepareNext_enveloped x hce hse).2.2 rfl
    obtain ⟨src', rfl, rfl, rfl, hcat, hend2, hbk, -, -, hfail⟩ := limited_read (k := env.length) x2 (Nat.sub_pos_of_lt hgt)
    dsimp only at hop hend hlen hspec hend2 hcat hfail
    rw [hspec, ← hend]
    have h5 : envPart.length = 5 := encode_length se env
    -- with bytes in hand, an `io.EOF` of the current reader is kept for the next `Read`
    have he2 : e2 = none ∨ ∃ err, e = some err ∧ err ≠ .eof ∧ e2 = some err := by
      by_cases hc : (decide (envPart.length + b.length > 0) && e == some .eof) = true
      · exact .inl (if_pos hc)
      · cases e with
        | none => exact .inl (if_neg hc)
        | some err =>
          refine .inr ⟨err, rfl, fun h => hc ?_, if_neg hc⟩
          rw [h, h5, Nat.add_comm]
          rfl
    rcases he2 with h | ⟨err, rfl, hne', h⟩ <;> rw [h]
    · exact EStep.hand_body ⟨.inr ⟨_, rfl⟩, fun h => absurd h (Nat.lt_irrefl 0)⟩ herr (hop.trans hop0) rfl rfl hbk hcat hend2
        (by rw [encode_length, Nat.zero_add, Nat.add_comm, hlen, hlen0])
    · -- the body has ended inside the message
      obtain ⟨rfl, hb, hlt⟩ := hfail err rfl hne'
      exact EStep.fail (by rw [bodySpec_cut ce se _ (hb ▸ hlt), ← hb]; rfl)
  case case5 s1 r1 p hp hge envPart r2 hle x =>
    -- exactly the envelope
    obtain ⟨env, rfl, hop, hend, hlen, hspec⟩ := (prepareNext_enveloped x hce hse).2.2 rfl
    dsimp only at hop hend hlen hspec ⊢
    rw [hspec, ← hend]
    exact EStep.hand_env ⟨.inr ⟨_, rfl⟩, fun h => absurd h (Nat.lt_irrefl 0)⟩ herr (hop.trans hop0) (List.append_nil _).symm rfl
      (by rw [encode_length, Nat.zero_add, Nat.add_comm, hlen, hlen0])

/-- The step lemma, with the conservation of bytes proved along the same case analysis. -/
theorem erRead_step_conserves (w : World) (ce se : Enveloper) (st : St) (r : ER) (n : Nat) (hn : 1 ≤ n)
    (hce : st.op.clientEnveloper = some ce) (hse : st.op.serverEnveloper = some se) (hwf : r.WF) (herr : r.err = none) :
    EStepOk ce se st (erSpec ce se st r) (erRead w st r n) ∧ Conserves r.pending.length st (erRead w st r n) := by
  unfold erRead
  rw [herr]
  dsimp only
  by_cases hrem : r.envRemain > 0
  · -- (part of) the pending envelope
    obtain ⟨h5, hl⟩ := hwf.env hrem
    rw [if_pos hrem, erSpec]
    refine EStep.hand_env ⟨hwf.cur, fun _ => ⟨Nat.le_trans (Nat.sub_le ..) h5, hl⟩⟩ rfl rfl ?_ rfl rfl
    rw [ER.pending, if_pos hrem]
    exact pending_split r.env r.envRemain _ hl h5 (Nat.min_le_right ..)
  rw [if_neg hrem, erSpec, ER.pending, if_neg hrem]
  -- phase 1: nothing is pending of an envelope; phase 2 takes over between two messages
  fun_cases erPhase1 w st r n
  case case1 hc =>
    rw [prepend_nil, ER.left, hc, bodySpec_zero]
    exact erPhase2_step w ce se st st r n hce hse herr rfl rfl
  case case2 b e s1 cur r1 hc x =>
    obtain ⟨k, hk⟩ := hwf.cur.resolve_left hc
    -- the current reader panicked: `limited_read` says the panic flag is false, this path has it true
    cases (limited_read (hk ▸ x) hn).choose_spec.2.2.1
  case case3 b e s1 cur p r1 hp hdel hc x =>
    -- bytes of the message are handed out
    obtain ⟨k, hk⟩ := hwf.cur.resolve_left hc
    obtain ⟨src', rfl, rfl, -, hcat, hend, hbk, -⟩ := limited_read (hk ▸ x) hn
    rw [ER.left, hk]
    -- `prepend []` was left in the goal for this `P`: the unifier is slow to put it back
    exact EStep.hand_body (P := []) ⟨.inr ⟨_, rfl⟩, fun h => absurd h hrem⟩ herr rfl (if_neg hrem) rfl hbk hcat hend rfl
  case case4 b s1 cur p r1 hp hc hdel x =>
    -- the message is exhausted: on to the next one
    obtain ⟨k, hk⟩ := hwf.cur.resolve_left hc
    obtain ⟨src', rfl, rfl, -, hcat, hend, -, -, heof, -⟩ := limited_read (hk ▸ x) hn
    obtain rfl : b = [] := by simpa using hdel
    obtain rfl : 0 = k := heof rfl
    rw [prepend_nil, ER.left, hk, bodySpec_zero, ← show src'.data = st.src.data from hcat, ← hend]
    exact erPhase2_step w ce se st { st with src := src' } r1 n hce hse herr rfl (congrArg List.length hcat)
  case case5 b s1 cur p r1 hp err hne hc hdel x =>
    -- the body has ended inside the message
    obtain ⟨k, hk⟩ := hwf.cur.resolve_left hc
    obtain ⟨src', rfl, rfl, -, -, -, -, -, -, hfail⟩ := limited_read (hk ▸ x) hn
    rw [prepend_nil, ER.left, hk]
    obtain ⟨rfl, hb, hlt⟩ := hfail err rfl hne
    exact EStep.fail (by rw [bodySpec_cut ce se _ (hb ▸ hlt), ← hb])
  case case6 b s1 cur p r1 hp hc hdel x =>
    -- nothing delivered and no error: impossible for a `Read` of at least one byte
    obtain ⟨k, hk⟩ := hwf.cur.resolve_left hc
    obtain ⟨-, -, -, -, -, -, -, hne, -⟩ := limited_read (hk ▸ x) hn
    exact absurd (by simpa using hdel) (hne rfl)

/-- **The step lemma of the re-framing reader**: whatever the `Read` size (at least one byte), whatever
    the state and however the client's body is cut into pieces, a `Read` hands out a prefix of the
    specified stream and leaves the reader where the rest of the stream follows; when it reports an
    error, the stream ends there with that error. -/
theorem erRead_step (w : World) (ce se : Enveloper) (st : St) (r : ER) (n : Nat) (hn : 1 ≤ n)
    (hce : st.op.clientEnveloper = some ce) (hse : st.op.serverEnveloper = some se) (hwf : r.WF) (herr : r.err = none) :
    EStepOk ce se st (erSpec ce se st r) (erRead w st r n) :=
  (erRead_step_conserves w ce se st r n hn hce hse hwf herr).1

/-- A backend handler reads the request body with buffer sizes `ns` (each at least one byte) until a
    `Read` reports an error (`io.EOF` included): it has then been given the bytes `o`, and the error is `e`. -/
inductive EReads (w : World) : St → ER → List Nat → Bytes → Err → Prop
  | last (st : St) (r : ER) (n : Nat) (ns : List Nat) (b : Bytes) (e : Err) (st' : St) (r' : ER) (p : Bool) :
      1 ≤ n → erRead w st r n = (b, some e, st', r', p) → EReads w st r (n :: ns) b e
  | more (st : St) (r : ER) (n : Nat) (ns : List Nat) (b : Bytes) (st' : St) (r' : ER) (p : Bool) (o : Bytes) (e : Err) :
      1 ≤ n → erRead w st r n = (b, none, st', r', p) → EReads w st' r' ns o e →
      EReads w st r (n :: ns) (b ++ o) e

theorem EReads.spec {w : World} {st : St} {r : ER} {ns : List Nat} {o : Bytes} {e : Err} (ce se : Enveloper)
    (h : EReads w st r ns o e) :
    st.op.clientEnveloper = some ce → st.op.serverEnveloper = some se → r.WF → r.err = none →
    erSpec ce se st r = (o, e) := by
  induction h with
  | last st r n ns b e st' r' p hn hrd =>
    intro hce hse hwf herr
    have hs := erRead_step w ce se st r n hn hce hse hwf herr
    rw [hrd] at hs
    exact hs.2.2 e rfl
  | more st r n ns b st' r' p o e hn hrd _ ih =>
    intro hce hse hwf herr
    have hs := erRead_step w ce se st r n hn hce hse hwf herr
    rw [hrd] at hs
    obtain ⟨hwf', herr', hop, hspec⟩ := hs.2.1 rfl
    simp only at hwf' herr' hop hspec
    rw [hspec, ih (by rw [hop]; exact hce) (by rw [hop]; exact hse) hwf' herr']
    rfl

/-- What the backend is to read for a list of client frames: for each its own envelope for the payload,
    then the payload, untouched. -/
def reframedAll (ce se : Enveloper) : List Frame → Bytes
  | [] => []
  | x :: xs =>
    (match ce.decode x.f x.a x.b x.c x.d with
      | some env => se.encode env
      | none => []) ++ x.payload ++ reframedAll ce se xs

theorem msgsSpec_frames (ce se : Enveloper) (ending : SrcEnd) (hend : ending ≠ .unexpected) (maxMsg : Nat) :
    ∀ (fs : List Frame), (∀ x ∈ fs, x.ok ce maxMsg) →
      msgsSpec ce se ending (framesBytes fs) = (reframedAll ce se fs, .eof) := by
  intro fs
  induction fs with
  | nil =>
    intro _
    rw [show framesBytes [] = [] from rfl, msgsSpec_short ce se ending [] (by simp), shortErr_nil hend]
    rfl
  | cons x xs ih =>
    intro hok
    obtain ⟨env, hdec, _, hlen, _⟩ := hok x (List.mem_cons_self)
    have hb : framesBytes (x :: xs) = x.f :: x.a :: x.b :: x.c :: x.d :: (x.payload ++ framesBytes xs) := by
      rw [framesBytes_cons, Frame.bytes, List.append_assoc]; rfl
    rw [hb, msgsSpec_cons ce se ending _ _ _ _ _ _ env hdec]
    rw [bodySpec_take ce se ending env.length x.payload (framesBytes xs) (Nat.le_of_eq hlen.symm)]
    rw [hlen, Nat.sub_self, bodySpec_zero, ih (fun y hy => hok y (List.mem_cons_of_mem _ hy))]
    simp [prepend, reframedAll, hdec, List.append_assoc]

theorem reframed_clean_stream (w : World) (ce se : Enveloper) (st : St) (fs : List Frame) (ns : List Nat) (o : Bytes) (e : Err)
    (hce : st.op.clientEnveloper = some ce) (hse : st.op.serverEnveloper = some se)
    (hok : ∀ x ∈ fs, x.ok ce st.op.conf.maxMsg) (hdata : st.src.data = framesBytes fs) (hend : st.src.ending ≠ .unexpected)
    (h : EReads w st {} ns o e) : o = reframedAll ce se fs ∧ e = .eof := by
  have s := h.spec ce se hce hse ⟨Or.inl rfl, fun hh => by simp at hh⟩ rfl
  have : erSpec ce se st {} = msgsSpec ce se st.src.ending st.src.data := by
    unfold erSpec ER.pending ER.left
    simp [prepend_nil, bodySpec_zero]
  rw [this, hdata, msgsSpec_frames ce se st.src.ending hend st.op.conf.maxMsg fs hok] at s
  simp only [Prod.mk.injEq] at s
  exact ⟨s.1.symm, s.2.symm⟩

/-! The re-framing reader conserves bytes: nothing is held back between the client and the handler but (part of)
    one envelope for the backend (C16, request direction). -/

/-- Bytes the reader has taken from the client but not yet handed to the handler. -/
def ER.held (r : ER) : Nat := r.pending.length

theorem pending_length (r : ER) (hwf : r.WF) : r.pending.length = r.envRemain := by
  rw [ER.pending]
  by_cases h : r.envRemain > 0
  · obtain ⟨h5, hl⟩ := hwf.env h
    rw [if_pos h, List.length_drop, hl, Nat.sub_sub_self h5]
  · rw [if_neg h]
    exact (Nat.eq_zero_of_not_pos h).symm

theorem erRead_conserves (w : World) (ce se : Enveloper) (st : St) (r : ER) (n : Nat) (hn : 1 ≤ n)
    (hce : st.op.clientEnveloper = some ce) (hse : st.op.serverEnveloper = some se) (hwf : r.WF) (herr : r.err = none) :
    (erRead w st r n).2.1 = none →
      (erRead w st r n).1.length + (erRead w st r n).2.2.2.1.pending.length + (erRead w st r n).2.2.1.src.data.length
        = r.pending.length + st.src.data.length :=
  (erRead_step_conserves w ce se st r n hn hce hse hwf herr).2

/-- A handler reads with buffer sizes `ns` (each at least one byte) and no `Read` reports an error: it
    has been given `o`, and reader and client body are in the states `st'`, `r'`. -/
inductive EOkReads (w : World) : St → ER → List Nat → Bytes → St → ER → Prop
  | nil (st : St) (r : ER) : EOkReads w st r [] [] st r
  | cons (st : St) (r : ER) (n : Nat) (ns : List Nat) (b : Bytes) (s1 : St) (r1 : ER) (p : Bool) (o : Bytes) (st' : St) (r' : ER) :
      1 ≤ n → erRead w st r n = (b, none, s1, r1, p) → EOkReads w s1 r1 ns o st' r' →
      EOkReads w st r (n :: ns) (b ++ o) st' r'

end Vanguard
