import Vanguard.Lemmas.WriteReach
/-!
  # Frame lemmas for the writers below `responseWriter`

  `HW a b`: the step from `a` to `b` leaves alone whether `WriteHeader` ran, the operation, the client's
  body, and which body writer is installed; it never starts buffering a response that was streaming, and never
  reopens an RPC that has ended.  It holds of the three steps `WrReach` is made of, hence of every
  function of the re-framing and the re-encoding writer, loops included (any backend output, any split).
  Also here: the re-framing writer stays initialised, and `WriteHeader` sets `headersWritten`.
-/
namespace Vanguard
structure HW (a b : St) : Prop where
  hw : b.rw.headersWritten = a.rw.headersWritten
  op : b.op = a.op
  src : b.src = a.src
  wk : b.rw.w = a.rw.w
  buf : a.rw.buf = none → b.rw.buf = none
  ended : a.rw.endWritten = true → b.rw.endWritten = true
theorem HW.refl (a : St) : HW a a := ⟨rfl, rfl, rfl, rfl, id, id⟩
theorem HW.trans {a b c : St} (h1 : HW a b) (h2 : HW b c) : HW a c :=
  ⟨h2.hw.trans h1.hw, h2.op.trans h1.op, h2.src.trans h1.src, h2.wk.trans h1.wk, fun h => h2.buf (h1.buf h), fun h => h2.ended (h1.ended h)⟩

theorem HW.open {a b : St} (h : HW a b) (ho : b.rw.endWritten = false) : a.rw.endWritten = false := by
  cases ha : a.rw.endWritten with
  | false => rfl
  | true => rw [h.ended ha] at ho; cases ho

theorem flushHeaders_hw (w : World) (st : St) : HW st (flushHeaders w st).1 := by
  cases hf : st.rw.headersFlushed
  · rw [flushHeaders_eq w st hf]
    cases (st.rw.respMeta.getD {}).end <;> exact ⟨rfl, rfl, rfl, rfl, fun _ => rfl, fun h => by simp [h]⟩
  · rw [flushHeaders_flushed w st hf]; exact HW.refl st

theorem reportEnd_hw (w : World) (st : St) (e : RespEnd) : HW st (reportEnd w st e).1 := by
  cases ho : st.rw.endWritten
  · rw [reportEnd_eq w st e ho]
    split
    · exact ⟨rfl, rfl, rfl, rfl, id, fun _ => rfl⟩
    · have h := flushHeaders_hw w (st.withEnd e)
      exact ⟨h.hw, h.op, h.src, h.wk, h.buf, fun h' => by rw [ho] at h'; cases h'⟩
  · rw [reportEnd_ended w st e ho]; exact HW.refl st

theorem reportError_hw (w : World) (st : St) (e : Err) : HW st (reportError w st e).1 := by
  obtain ⟨e', h, _⟩ := reportError_eq w st e
  rw [h]; exact reportEnd_hw w st e'

theorem writeDown_hw (w : World) (st : St) (b : Bytes) : HW st (writeDown w st b).1 := by
  unfold writeDown
  split
  · rename_i hb
    split
    · exact reportError_hw w st _
    · exact ⟨rfl, rfl, rfl, rfl, fun h => (by rw [hb] at h; cases h), id⟩
  · exact ⟨rfl, rfl, rfl, rfl, id, id⟩

theorem flushMessage_hw (st : St) : HW st (flushMessage st) := by
  unfold flushMessage
  split
  · exact HW.refl st
  · exact ⟨rfl, rfl, rfl, rfl, id, id⟩

theorem WrReach.hw {w : World} {G : Prop} {a b : St} (r : WrReach w G a b) : HW a b := by
  induction r with
  | refl => exact HW.refl _
  | fin _ e ih => exact ih.trans (reportEnd_hw w _ e)
  | down _ _ x ih => exact ih.trans (writeDown_hw w _ x)
  | flush _ ih => exact ih.trans (flushMessage_hw _)

theorem ewWrite_hw (w : World) (tb : Tables) (st : St) (e : EW) (data : Bytes) : HW st (ewWrite w tb st e data).1 :=
  (ewWrite_reach (G := False) rfl nofun).hw

theorem twFlushMessage_hw (w : World) (tb : Tables) (st : St) (t : TW) : HW st (twFlushMessage w tb st t).1 :=
  (twFlushMessage_reach (G := False) rfl nofun).1.hw

theorem twWrite_hw (w : World) (tb : Tables) (st : St) (t : TW) (data : Bytes) : HW st (twWrite w tb st t data).1 :=
  (twWrite_reach (G := False) rfl nofun).hw

theorem ewWritePiece_initialized (w : World) (st : St) (e : EW) (piece : Bytes) :
    (ewWritePiece w st e piece).2.1.initialized = e.initialized := by
  fun_cases ewWritePiece w st e piece <;> rfl

theorem ewEnvelopeWritten_initialized (w : World) (st : St) (e : EW) :
    (ewEnvelopeWritten w st e).2.1.initialized = e.initialized := by
  fun_cases ewEnvelopeWritten w st e <;> rfl

theorem ewLoop_initialized (w : World) (tb : Tables) (n : Nat) (st : St) (e : EW) (data : Bytes) :
    (ewLoop w tb n st e data).2.1.initialized = e.initialized := by
  fun_induction ewLoop w tb n st e data
  case case1 | case2 => rfl
  all_goals have h1 : _ = _ := (‹ewWritePiece w _ _ _ = _› ▸ ewWritePiece_initialized w _ _ _ :)
  -- the piece (and the end-of-stream message it may complete) ends the call; or the loop goes on after it
  case case3 | case4 | case7 | case8 | case10 => exact h1
  case case9 ih | case11 ih => exact ih.trans h1
  -- an envelope is complete
  all_goals have h2 : _ = _ := (‹ewEnvelopeWritten w _ _ = _› ▸ ewEnvelopeWritten_initialized w _ _ :)
  case case5 => exact h2.trans h1
  case case6 ih => exact (ih.trans h2).trans h1

theorem ewInit_initialized (w : World) (st : St) (e : EW) : (ewInit w st e).2.1.initialized = true := by
  fun_cases ewInit w st e
  · assumption
  all_goals rfl

theorem ewWrite_initialized (w : World) (tb : Tables) (st : St) (e : EW) (data : Bytes) :
    (ewWrite w tb st e data).2.1.initialized = true := by
  fun_cases ewWrite w tb st e data
  all_goals have h0 : _ = true := (‹ewInit w st e = _› ▸ ewInit_initialized w st e :)
  case case1 | case2 => exact h0
  case case3 => exact ((‹ewWritePiece w _ _ _ = _› ▸ ewWritePiece_initialized w _ _ _ :) : _ = _).trans h0
  case case4 => exact (ewLoop_initialized w tb _ _ _ _).trans h0

theorem rwWriteHeader_written (w : World) (tb : Tables) (st : St) (c : Nat) :
    (rwWriteHeader w tb st c).1.rw.headersWritten = true := by
  have hp := rwWriteHeader_path w tb st c
  generalize rwWriteHeader w tb st c = r at hp
  cases hp with
  | again h => exact h
  | ended => rfl
  | error p => exact (reportError_hw w _ _).hw.trans p.neutral.written
  | errorBody _ p | buffered p => exact p.neutral.written
  | trailersOnly p | streaming p =>
    dsimp only [rwSetWriter]   -- before unifying: matching `flushHeaders_hw` against the installed writer is dear
    exact (flushHeaders_hw w _).hw.trans p.neutral.written

end Vanguard
