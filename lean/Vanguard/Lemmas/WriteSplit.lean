import Vanguard.Lemmas.WriteLoops
import Vanguard.Lemmas.TwRound
/-!
  How the backend splits its response across `Write` calls does not matter (C08), for the
  re-encoding writer (`transformingWriter`): writing `a` and then `b` leaves the client's
  connection and the outcome exactly as writing `a ++ b` in one call.  Round by round (`Lemmas/TwRound.lean`):
  bytes that do not complete what is in progress might have been in the buffer already
  (`twRound_append_short`); bytes after the completing ones join the rest (`twRound_append_long`).
-/
namespace Vanguard
open Vanguard.C11

theorem twLoop_any_fuel (w : World) (tb : Tables) (st : St) (t : TW) (d : Bytes) (hinv : TwInv t) {n m : Nat}
    (hn : muT t d < n) (hm : muT t d < m) : twLoop w tb n st t d = twLoop w tb m st t d :=
  stable_from (twLoop w tb · st t d) (muT t d + 1) (fun k hk => twLoop_fuel w tb k st t d hinv hk) hn hm

/-- What the client's connection and the panic flag are after a loop. -/
def Visible (x : St × TW × Bool × Bool) : St × Bool := (x.1, x.2.2.2)

/-- The second `Write` of a split, or nothing when the first one failed. -/
def thenLoop (w : World) (tb : Tables) (G : Nat) (b : Bytes) (r1 : St × TW × Bool × Bool) : St × TW × Bool × Bool :=
  if (r1.2.2.1 || r1.2.2.2) = true then r1 else twLoop w tb G r1.1 r1.2.1 b

/-- What a round becomes when `b` follows its bytes in the same call: `b` joins the bytes not yet looked at; a
    round that ended the call without error goes on with `b`, waiting for the next envelope. -/
def Round.append (b : Bytes) : Round TW → Round TW
  | .next st t rest => .next st t (rest ++ b)
  | .done (st, t, false, false) => if b.isEmpty then .done (st, t, false, false) else .next st { t with expecting := 5, writingEnvelope := true } b
  | .done r => .done r

theorem twComplete_append (w : World) (tb : Tables) (st : St) (t : TW) (rest b : Bytes) :
    twComplete w tb st t (rest ++ b) = (twComplete w tb st t rest).append b := by
  rw [twComplete, twComplete]
  refine ite_eq_apply_ite _ (fun _ => ?_) fun _ => ?_
  · split
    · split
      · rfl
      · exact ite_eq_apply_ite _ (fun _ => rfl) fun _ => rfl
    · rfl
  · generalize twFlushMessage w tb st t = r
    obtain ⟨s1, t1, err, p⟩ := r
    cases p with
    | true => rfl
    | false =>
      cases err with
      | some e => rfl
      | none =>
        dsimp only
        cases t1.latest.trailer <;> cases rest <;> cases b <;> rfl

theorem twRound_append_long (w : World) (tb : Tables) (st : St) (t : TW) (a b : Bytes)
    (herr : t.err = false) (h0 : 0 ≤ t.missing) (hle : t.missing ≤ a.length) :
    twRound w tb st t (a ++ b) = (twRound w tb st t a).append b := by
  have hk : t.missing.toNat ≤ a.length := Int.toNat_le.mpr hle
  have hf : t.filled (a ++ b) = t.filled a := by unfold TW.filled; rw [List.take_append_of_le_length hk]
  have e1 := ne_true_of_eq_false herr
  have e2 : ¬ t.missing < 0 := Int.not_lt.mpr h0
  have e3 : ¬ ((a ++ b).length : Int) < t.missing :=
    Int.not_lt.mpr (Int.le_trans hle (Int.ofNat_le.mpr (List.length_append ▸ Nat.le_add_right _ _)))
  have e4 : ¬ (a.length : Int) < t.missing := Int.not_lt.mpr hle
  simp only [twRound, if_neg e1, if_neg e2, if_neg e3, if_neg e4, hf, List.drop_append_of_le_length hk, twComplete_append]

theorem twRound_append_short (w : World) (tb : Tables) (st : St) (t : TW) (a b : Bytes)
    (herr : t.err = false) (hlt : (a.length : Int) < t.missing) :
    twRound w tb st t (a ++ b) = twRound w tb st { t with buffer := some (t.buffer.getD [] ++ a) } b := by
  -- after `a`, `k + 1` bytes are still missing; in natural numbers both sides test `b.length < k + 1` and cut `b` at `k + 1`
  obtain ⟨k, hk⟩ := Int.lt.dest hlt
  have hm : t.missing = ((a.length + (k + 1) : Nat) : Int) := hk.symm.trans (Int.natCast_add _ _).symm
  have hm' : ({ t with buffer := some (t.buffer.getD [] ++ a) } : TW).missing = ((k + 1 : Nat) : Int) := by
    simp only [TW.missing, Option.getD_some, List.length_append, Int.natCast_add, ← Int.sub_sub]
    exact Int.sub_eq_iff_eq_add'.mpr hk.symm
  have e2 (n : Nat) : ¬ (n : Int) < 0 := Int.not_lt.mpr (Int.natCast_nonneg n)
  simp only [twRound, if_neg (ne_true_of_eq_false herr), hm, hm', if_neg (e2 _), TW.filled, Int.ofNat_lt, Int.toNat_natCast,
    List.length_append, Nat.add_lt_add_iff_left, List.take_length_add_append, List.drop_length_add_append, Option.getD_some,
    List.append_assoc]

theorem visible_latched (w : World) (tb : Tables) (n : Nat) (st : St) (t : TW) (d : Bytes) (h : t.err = true) (hn : 0 < n) :
    Visible (twLoop w tb n st t d) = (st, false) := by
  cases n with
  | zero => exact absurd hn (Nat.lt_irrefl 0)
  | succ m => rw [twLoop_err w tb m st t d h]; rfl

theorem twLoop_split (w : World) (tb : Tables) (b : Bytes) (G : Nat) (hG : 2 * b.length + 2 ≤ G) :
    ∀ (F : Nat) (st : St) (t : TW) (a : Bytes), TwInv t → muT t (a ++ b) < F →
      Visible (twLoop w tb F st t (a ++ b)) = Visible (thenLoop w tb G b (twLoop w tb F st t a)) := by
  -- `muT t' b` is `2 * b.length` plus 0 or 1
  have hG' (t' : TW) : muT t' b < G := Nat.lt_of_lt_of_le (Nat.add_lt_add_left (by split <;> decide) _) hG
  intro F
  induction F with
  | zero => intro _ _ _ _ h; exact absurd h (Nat.not_lt_zero _)
  | succ m ih =>
    intro st t a hinv hmu
    by_cases herr' : t.err = true
    · -- latched (= `err` set: every later `Write` returns at once): nothing happens in either case
      rw [visible_latched w tb _ st t _ herr' (Nat.succ_pos m), twLoop_err w tb m st t a herr']; rfl
    have herr : t.err = false := by simpa using herr'
    by_cases hshort : (a.length : Int) < t.missing
    · -- `a` does not complete what is in progress: it is buffered, `b` continues from there
      have h1 : twLoop w tb (m + 1) st t a = (st, { t with buffer := some (t.buffer.getD [] ++ a) }, false, false) := by
        rw [twLoop_succ, twRound_short herr hshort]; rfl
      have hinv1 := twLoop_keeps_inv w tb (m + 1) st t a hinv
      rw [h1] at hinv1
      rw [twLoop_succ, twRound_append_short w tb st t a b herr hshort, ← twLoop_succ, h1]
      -- fewer bytes in the same phase: the measure is no larger
      have hle : muT { t with buffer := some (t.buffer.getD [] ++ a) } b ≤ muT t (a ++ b) :=
        Nat.add_le_add_right (Nat.mul_le_mul_left 2 (List.length_append ▸ Nat.le_add_left _ _)) _
      exact congrArg Visible (twLoop_any_fuel w tb st _ b (hinv1 rfl) (Nat.lt_of_le_of_lt hle hmu) (hG' _))
    · rw [twLoop_succ, twLoop_succ]
      by_cases hneg : t.missing < 0
      · simp only [twRound, if_neg herr', if_pos hneg]; rfl
      have hle := Int.not_lt.mp hshort
      have hk : t.missing.toNat ≤ a.length := Int.toNat_le.mpr hle
      rw [twRound_append_long w tb st t a b herr (Int.not_lt.mp hneg) hle, twRound, if_neg herr', if_neg hneg, if_neg hshort]
      rcases twComplete_cases w tb st (t.filled a) (a.drop t.missing.toNat) with
        ⟨s, t1, hR, hinv1, hflip⟩ | ⟨s, t1, hR, he1, hw⟩ | ⟨s, t1, p, hR⟩ <;> rw [hR]
      · -- the round goes on: so does the induction
        have hge : ¬ ((a ++ b).length : Int) < t.missing :=
          Int.not_lt.mpr (Int.le_trans hle (Int.ofNat_le.mpr (List.length_append ▸ Nat.le_add_right _ _)))
        have hlt : muT t1 ((a ++ b).drop t.missing.toNat) < muT t (a ++ b) := muT_next hinv herr hge hflip
        rw [List.drop_append_of_le_length hk] at hlt
        exact ih _ _ _ hinv1 (Nat.lt_of_lt_of_le hlt (Nat.le_of_lt_succ hmu))
      · -- the end of the stream was handled: the writer is latched, nothing else is visible
        have hm : 0 < m := by   -- inside a message the measure is positive
          rw [muT, if_neg (ne_true_of_eq_false (show t.writingEnvelope = false from hw))] at hmu
          exact Nat.zero_lt_of_lt (Nat.lt_of_succ_lt_succ hmu)
        -- unfold `Round.append` (left) and `thenLoop` (right: the first call did not fail), for `rw` and `split` to see inside
        show Visible (Round.run _ (if b.isEmpty = true then _ else _)) = Visible (twLoop w tb G s t1 b)
        rw [visible_latched w tb G s t1 b he1 (Nat.zero_lt_of_lt (hG' t1))]
        split
        · rfl
        · exact visible_latched w tb m s _ b he1 hm
      · rfl      -- the round fails: both sides pass the failure on

/-- Latched or buffering: what `Write` establishes before the loop and the loop keeps. -/
def TwBuf (t : TW) : Prop := t.err = true ∨ t.buffer.isSome = true

theorem twLoop_keeps_buffer (w : World) (tb : Tables) (n : Nat) (st : St) (t : TW) (data : Bytes) (hb : TwBuf t) :
    TwBuf (twLoop w tb n st t data).2.1 := by
  fun_induction twLoop w tb n st t data
  -- out of fuel; latched; more in the buffer than expected (a panic): the writer is unchanged
  case case1 | case2 | case3 => exact hb
  -- the bytes are buffered; the envelope is rejected (undecodable, too long); no five envelope bytes (a panic)
  case case4 | case5 | case6 | case8 => exact .inr rfl
  case case7 ih => exact ih (.inr rfl)   -- the envelope is accepted: on to its message
  -- a message is complete and is flushed (cases 9 to 12)
  all_goals have hk := (twFlushMessage_keeps ‹twFlushMessage _ _ _ _ = _›).2 rfl
  case case12 ih => exact ih (.inr hk)   -- on to the next envelope
  all_goals exact .inr hk

/-- The `Write` calls that follow a first one (each with the fuel `Write` gives its loop); a failed call
    ends the sequence. -/
def thenLoops (w : World) (tb : Tables) (r : St × TW × Bool × Bool) : List Bytes → St × TW × Bool × Bool
  | [] => r
  | d :: ds => thenLoops w tb (thenLoop w tb (2 * d.length + 4) d r) ds

theorem thenLoops_failed (w : World) (tb : Tables) (r : St × TW × Bool × Bool) (h : (r.2.2.1 || r.2.2.2) = true) :
    ∀ ds, thenLoops w tb r ds = r := by
  intro ds
  induction ds with
  | nil => rfl
  | cons d ds ih => rw [thenLoops, show thenLoop w tb (2 * d.length + 4) d r = r from if_pos h, ih]

end Vanguard
