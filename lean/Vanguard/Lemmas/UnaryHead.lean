import Vanguard.Lemmas.ReadReach
import Vanguard.Lemmas.Frame
import Vanguard.Lemmas.EndRelay
/-!
  # A client whose end must be in the head never gets the head before the end

  `UInv st`: when the client's protocol needs the end of the RPC in the response head (unary Connect,
  REST), the head has not been sent while the RPC is open.  Kept by every reader, every writer, every
  handler operation; holds when `ServeHTTP` hands the request to the handler.  Consequence: in every
  state a handler can reach, a client of the e2e model can still be told the end (`CanTell`), which
  removes the hypothesis from C04's relay theorems for unary Connect clients.
-/
namespace Vanguard

def UInv (st : St) : Prop :=
  st.op.cform.endMustBeInHeaders = true → st.rw.headersFlushed = true → st.rw.endWritten = true

structure US (a b : St) : Prop where
  op : b.op = a.op
  ended : a.rw.endWritten = true → b.rw.endWritten = true
  fl : b.rw.endWritten = true ∨ b.rw.headersFlushed = a.rw.headersFlushed

theorem US.refl (a : St) : US a a := ⟨rfl, id, Or.inr rfl⟩
theorem US.trans {a b c : St} (h1 : US a b) (h2 : US b c) : US a c := by
  refine ⟨h2.op.trans h1.op, fun h => h2.ended (h1.ended h), ?_⟩
  rcases h2.fl with h | h
  · exact Or.inl h
  · rcases h1.fl with h' | h'
    · exact Or.inl (h2.ended h')
    · exact Or.inr (h.trans h')

theorem US.rwUpdate (st : St) (r : RW) (he : r.endWritten = st.rw.endWritten) (hf : r.headersFlushed = st.rw.headersFlushed) :
    US st { st with rw := r } := ⟨rfl, fun h => by simp only; rw [he]; exact h, Or.inr hf⟩

theorem UInv.step {a b : St} (h : US a b) (ha : UInv a) : UInv b := by
  intro hm hf
  rcases h.fl with he | hfl
  · exact he
  · rw [h.op] at hm; rw [hfl] at hf; exact h.ended (ha hm hf)

theorem UInv.of_ended {st : St} (h : st.rw.endWritten = true) : UInv st := fun _ _ => h

theorem Neutral.us {a b : St} (h : Neutral a b) : US a b := ⟨h.op, fun he => h.ended.trans he, .inr h.flushed⟩

theorem reportEnd_us (w : World) (st : St) (e : RespEnd) : US st (reportEnd w st e).1 :=
  ⟨(reportEnd_hw w st e).op, (reportEnd_hw w st e).ended, Or.inl (reportEnd_ends w st e)⟩

theorem reportError_us (w : World) (st : St) (e : Err) : US st (reportError w st e).1 :=
  ⟨(reportError_hw w st e).op, (reportError_hw w st e).ended, Or.inl (reportError_ends w st e)⟩

theorem writeDown_us (w : World) (st : St) (b : Bytes) : US st (writeDown w st b).1 := by
  unfold writeDown
  split
  · split
    · exact reportError_us w st _
    · exact US.rwUpdate _ _ rfl rfl
  · exact ⟨rfl, id, Or.inr rfl⟩

theorem flushMessage_us (st : St) : US st (flushMessage st) := by
  unfold flushMessage
  split <;> exact ⟨rfl, id, Or.inr rfl⟩

theorem WrReach.us {w : World} {G : Prop} {a b : St} (r : WrReach w G a b) : US a b := by
  induction r with
  | refl => exact US.refl _
  | fin _ e ih => exact ih.trans (reportEnd_us w _ e)
  | down _ _ x ih => exact ih.trans (writeDown_us w _ x)
  | flush _ ih => exact ih.trans (flushMessage_us _)

theorem rwSetWriter_us (st : St) (k : WK) : US st (rwSetWriter st k) := US.rwUpdate _ _ rfl rfl

theorem flushHeaders_end_us (w : World) (st : St) (e : RespEnd) (he : (st.rw.respMeta.getD {}).end = some e) :
    US st (flushHeaders w st).1 := by
  by_cases hf : st.rw.headersFlushed = true
  · rw [flushHeaders_flushed w st hf]; exact US.refl st
  · exact ⟨(flushHeaders_hw w st).op, (flushHeaders_hw w st).ended, Or.inl (flushHeaders_ends w st e (by simpa using hf) he)⟩

theorem Prepared.us {tb : Tables} {c : Nat} {st s : St} (p : Prepared tb c st s) : US st s :=
  (US.rwUpdate st { st.rw with headersWritten := true, statusCode := c } rfl rfl).trans p.neutral.us

theorem rwWriteHeader_uinv (w : World) (tb : Tables) (st : St) (status : Nat) (h : UInv st) :
    UInv (rwWriteHeader w tb st status).1 := by
  have hp := rwWriteHeader_path w tb st status
  generalize rwWriteHeader w tb st status = r at hp
  cases hp with
  | again => exact h
  | ended => exact UInv.step (US.rwUpdate st _ rfl rfl) h
  | error p => exact UInv.step (p.us.trans (reportError_us w _ _)) h
  | errorBody _ p => exact UInv.step (p.us.trans (rwSetWriter_us _ _)) h
  | @buffered s _ p =>
    exact UInv.step (p.us.trans ((US.rwUpdate s { s.rw with buf := some [] } rfl rfl).trans (rwSetWriter_us _ _))) h
  | trailersOnly p he => exact UInv.step (p.us.trans ((flushHeaders_end_us w _ _ he).trans (rwSetWriter_us _ _))) h
  | streaming _ hm =>
    dsimp only [UInv, rwSetWriter]
    rw [(flushHeaders_hw w _).op, hm]
    nofun

theorem rwWrite_uinv (w : World) (tb : Tables) (st : St) (data : Bytes) (h : UInv st) : UInv (rwWrite w tb st data).1 := by
  have h0 := rwWriteHeader_uinv w tb st 200 h
  rw [← implicitHeader_eq] at h0
  fun_cases rwWrite w tb st data with
  | case3 => exact UInv.step (US.trans ((ewWrite_reach (G := False) rfl nofun).us) (US.rwUpdate _ _ rfl rfl)) h0
  | case4 => exact UInv.step (US.trans ((twWrite_reach (G := False) rfl nofun).us) (US.rwUpdate _ _ rfl rfl)) h0
  | case6 => exact UInv.step (reportError_us w _ _) h0
  | case7 => exact UInv.step (US.rwUpdate _ _ rfl rfl) h0
  | _ => exact h0      -- the other paths return the state the implicit `WriteHeader` left

theorem errorWriterClose_us (w : World) (tb : Tables) (st : St) (body : Bytes) (kind : EndBody) :
    US st (errorWriterClose w tb st body kind).1 := by
  unfold errorWriterClose
  simp only
  refine US.trans (b := ({ st with rw := { st.rw with respMeta := some { (st.rw.respMeta.getD {}) with «end» := some (errorWriterEnd w tb st body kind) } } } : St)) ?_ ?_
  · exact US.rwUpdate st _ rfl rfl
  · exact flushHeaders_end_us w _ (errorWriterEnd w tb st body kind) rfl

theorem rwCloseWriter_us (w : World) (tb : Tables) (st : St) : US st (rwCloseWriter w tb st).1 := by
  rcases rwCloseWriter_reach w False tb st with h | ⟨b, kind, h⟩
  · exact h.us
  · rw [h]; exact errorWriterClose_us w tb st b kind

theorem UInv.can_tell {st : St} (hu : UInv st) (hc : st.op.cform ≠ .rest) (hopen : st.rw.endWritten = false) :
    CanTell st := by
  refine ⟨hc, ?_⟩
  cases hl : st.op.cform.hasLateEnd with
  | true => exact Or.inl rfl
  | false =>
    right
    cases hf : st.rw.headersFlushed with
    | false => rfl
    | true =>
      have hm : st.op.cform.endMustBeInHeaders = true := by
        cases hcf : st.op.cform <;> simp [hcf, ClientForm.hasLateEnd, ClientForm.endMustBeInHeaders] at hl ⊢
      have := hu hm hf
      rw [hopen] at this; cases this

theorem runScript_uinv (w : World) (tb : Tables) (pl : HandlePlan) (script : List BOp) (total0 : Nat) (f : Flight)
    (h : UInv f.st) : UInv (runScript w tb pl script total0 f).1.st :=
  runScript_inv_st (fun n => UInv.step n.us) (fun _ _ => UInv.step (reportError_us w _ _))
    (rwWriteHeader_uinv w tb) (rwWrite_uinv w tb) script total0 f h

theorem start_uinv (st : St) (skip : Bool) (hrw : st.rw = {}) : UInv (transcodeStartState st skip) :=
  UInv.step (transcodeStartState_neutral st skip).us fun _ hf => by rw [hrw] at hf; cases hf

theorem reachable_can_tell (w : World) (tb : Tables) (pl : HandlePlan) (script : List BOp) (total0 : Nat)
    (st : St) (skip : Bool) (rd : Reader) (hrw : st.rw = {}) :
    let st' := (runScript w tb pl script total0 { st := transcodeStartState st skip, rd := rd }).1.st
    st'.op.cform ≠ .rest → st'.rw.endWritten = false → CanTell st' :=
  fun hc hopen => (runScript_uinv w tb pl script total0 _ (start_uinv st skip hrw)).can_tell hc hopen

end Vanguard
