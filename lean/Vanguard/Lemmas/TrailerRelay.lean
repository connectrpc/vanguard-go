import Vanguard.Lemmas.EndRelay
/-!
  Where the trailers of the RPC's end go (C05): the end-of-stream frame of a Connect-streaming
  client, the trailer frame of a gRPC-Web client (the HTTP trailers of a gRPC client: `Props/C05.lean`) - whatever
  carried them on the backend's side (`RespEnd.trailers` is what the backend's protocol handler
  extracted, or what the handler stored as pending trailers when the end itself has none).
-/
namespace Vanguard

theorem endItem_flush (k : Sink) : k.flush.endItem = k.endItem := rfl

theorem reportEnd_late_frame (w : World) (st : St) (e : RespEnd) (hg : Good st) (hopen : st.rw.endWritten = false)
    (hfl : st.rw.headersFlushed = true) (hc : st.op.cform = .grpcWeb ∨ st.op.cform = .connectStream) :
    ∃ flags e', (reportEnd w st e).1.sink.endItem = some (.endFrame flags e') ∧
      e'.err = e.err ∧ e'.trailers = effTrailers st e ∧
      flags = (if st.op.cform = .grpcWeb then 0x80 else 2) := by
  rw [reportEnd_eq w st e hopen, if_pos hfl]
  simp only [endItem_flush]
  rw [encodeEnd_endItem _ _ _ (marks_zero_fields ((hg.withEnd hopen e).opened hopen)).1]
  rcases hc with h | h <;> rw [h] <;> exact ⟨_, _, rfl, rfl, rfl, by simp⟩

theorem flushHeaders_stream_item (w : World) (st : St) (e : RespEnd) (hg : Good st) (hf : st.rw.headersFlushed = false)
    (he : (st.rw.respMeta.getD {}).end = some e) (hc : st.op.cform = .connectStream) :
    (flushHeaders w st).1.sink.endItem = some (.endFrame 2 e) := by
  rw [flushHeaders_eq w st hf, he, hc]
  exact encodeEnd_endItem _ _ _ (headSink_fields w st (hg.opened (hg.not_flushed_open hf))).2.2

end Vanguard
