import Vanguard.Model.Timeout
import Vanguard.Spec.Timeout
import Vanguard.Lemmas.Decimal
/-! The timeout codecs (`Model/Timeout`) against the reference grammar (`Spec/Timeout`): units, malformed numbers,
    int64 wrap-around, what the decoders accept. -/
namespace Vanguard

theorem parseInt64_malformed (ds : Bytes) (h : Spec.numberMalformed ds = true) : parseInt64 ds = none := by
  cases ds with
  | nil => rfl
  | cons c rest =>
    simp only [Spec.numberMalformed, Spec.allDigits, Bool.or_eq_true, Bool.not_eq_true', Bool.and_eq_true,
      List.isEmpty_iff, Bool.or_eq_false_iff] at h
    -- after a sign the rest is not a number; without a sign the whole is not
    have hrest : ((c == 0x2D) = true ∨ (c == 0x2B) = true) → parseNat rest = none := fun hs =>
      parseNat_eq_none (by
        rcases h with (h | h) | h
        · simp [h.1.2, h.2] at hs
        · exact .inr h
        · exact .inl h.1)
    have hall : parseNat (c :: rest) = none :=
      parseNat_eq_none (.inr (by
        simp only [List.all_cons, Bool.and_eq_false_iff]
        rcases h with (h | h) | h
        · exact .inl h.1.1
        · exact .inr h
        · exact .inl h.2))
    unfold parseInt64
    cases h1 : c == 0x2D
    · cases h2 : c == 0x2B
      · simp only [h1, h2, Bool.false_eq_true, if_false, hall]
      · simp only [h1, h2, Bool.false_eq_true, if_false, if_true, hrest (.inr h2)]
    · simp only [h1, if_true, hrest (.inl h1)]

/-- `1*kDIGIT` of the reference grammars (`k ≤ 18`, so no range error): `ParseInt` reads the number. -/
theorem parseInt64_of_grammar {s : Bytes} {k : Nat}
    (h : (Spec.allDigits s && decide (1 ≤ s.length) && decide (s.length ≤ k)) = true) (hk : k ≤ 18) :
    ∃ n : Nat, parseNat s = some n ∧ n < 10 ^ k ∧ parseInt64 s = some (n : Int) := by
  simp only [Bool.and_eq_true, decide_eq_true_eq] at h
  obtain ⟨n, hn, hlt, hp⟩ := parseInt64_digits s (List.ne_nil_of_length_pos h.1.2) h.1.1
  have hk' : n < 10 ^ k := Nat.lt_of_lt_of_le hlt (Nat.pow_le_pow_right (by decide) h.2)
  have h63 : n < 2 ^ 63 := Nat.lt_of_lt_of_le hk' (Nat.le_trans (Nat.pow_le_pow_right (by decide) hk) (by decide))
  exact ⟨n, hn, hk', by rw [hp, if_neg (Nat.not_le.mpr h63)]⟩

theorem grpcUnit_spec (u : UInt8) :
    Spec.unitNanos u = (if grpcUnit u = 0 then none else some (grpcUnit u)) ∧
    0 ≤ grpcUnit u ∧ (grpcUnit u = 3600000000000 ∨ grpcUnit u ≤ 60000000000) := by
  fun_cases grpcUnit u
  case case7 h1 h2 h3 h4 h5 h6 =>
    -- none of the six units: the grammar's table has no entry either
    refine ⟨?_, by decide, by decide⟩
    fun_cases Spec.unitNanos u
    · exact absurd rfl h1
    · exact absurd rfl h2
    · exact absurd rfl h3
    · exact absurd rfl h4
    · exact absurd rfl h5
    · exact absurd rfl h6
    · rfl
  -- on a rung of the ladder the byte is known
  all_goals (rename_i h; obtain rfl := beq_iff_eq.mp h; decide)

theorem wrap64_bounds (x : Int) : -2^63 ≤ wrap64 x ∧ wrap64 x < 2^63 := by unfold wrap64; omega

theorem wrap64_of_lt {x : Int} (h0 : 0 ≤ x) (h : x < 2^63) : wrap64 x = x := by unfold wrap64; omega

/-- If truncated division of the wrapped product by the factor gives the other factor back, the
    product did not wrap: the two differ by a multiple of 2^64 and by less than the factor. -/
theorem wrap64_mul_of_tdiv (n : Int) (hd : Int.tdiv (wrap64 (1000000 * n)) 1000000 = n) :
    wrap64 (1000000 * n) = 1000000 * n := by
  have h1 := Int.mul_tdiv_add_tmod (wrap64 (1000000 * n)) 1000000
  have h2 := Int.tmod_lt_of_pos (wrap64 (1000000 * n)) (show (0:Int) < 1000000 by decide)
  have h3 := Int.lt_tmod_of_pos (wrap64 (1000000 * n)) (show (0:Int) < 1000000 by decide)
  rw [hd] at h1
  unfold wrap64 at *
  omega

theorem grpcDecodeTimeout_ok {s : Bytes} {d : Int} (h : grpcDecodeTimeout s = .ok d) :
    ∃ u num, d = num * grpcUnit u ∧ 0 ≤ num ∧ num ≤ 99999999 ∧ (grpcUnit u = 3600000000000 → num ≤ 8) := by
  revert h
  -- every path but the last returns something other than `.ok`
  fun_cases grpcDecodeTimeout s <;> intro h <;> cases h
  rename_i u _ _ _ num _ h0 h8 hH
  simp only [Bool.and_eq_true, beq_iff_eq, decide_eq_true_eq, not_and] at hH
  exact ⟨u, num, rfl, Int.not_lt.mp h0, Int.not_lt.mp h8, fun hu => Int.not_lt.mp (hH hu)⟩

/-- `connectExtractTimeout` without the wrap-around: what `ParseInt` read, rejected if negative, times 10^6
    if that fits and `maxInt64` otherwise (the overflow test of the source is exact: `wrap64_mul_of_tdiv`). -/
theorem connectExtractTimeout_eq {s : Bytes} (hne : s.isEmpty = false) :
    connectExtractTimeout s = (parseInt64 s).bind fun n =>
      if n < 0 then none else some (some (if 1000000 * n < 2^63 then 1000000 * n else maxInt64)) := by
  unfold connectExtractTimeout
  rw [hne, if_neg Bool.false_ne_true]
  cases parseInt64 s with
  | none => rfl
  | some n =>
    simp only [Option.bind_some]
    by_cases h0 : n < 0
    · rw [if_pos h0, if_pos h0]
    · rw [if_neg h0, if_neg h0]
      by_cases hd : Int.tdiv (wrap64 (1000000 * n)) 1000000 = n
      · have hw := wrap64_mul_of_tdiv n hd
        rw [hd, if_neg (by simp), hw, if_pos (hw ▸ (wrap64_bounds (1000000 * n)).2)]
      · have hbig : ¬ 1000000 * n < 2^63 := fun hlt => hd (by
          rw [wrap64_of_lt (Int.mul_nonneg (by decide) (Int.not_lt.mp h0)) hlt, Int.mul_tdiv_cancel_left _ (by decide)])
        rw [if_pos (by simpa using hd), if_neg hbig]

end Vanguard
