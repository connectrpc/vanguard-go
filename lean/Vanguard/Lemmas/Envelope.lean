import Vanguard.Model.Envelope
import Vanguard.Lemmas.List
/-! The envelope codecs: what is written is five bytes, a data envelope starts with 0 or 1, and the length
  survives the four bytes. -/
namespace Vanguard

theorem fromBe32_ofNat (n : Nat) (h : n < 4294967296) :
    fromBe32 (UInt8.ofNat (n / 16777216 % 256)) (UInt8.ofNat (n / 65536 % 256)) (UInt8.ofNat (n / 256 % 256))
      (UInt8.ofNat (n % 256)) = n := by
  unfold fromBe32
  simp only [UInt8.toNat_ofNat', Nat.mod_mod]
  -- `n` is its own remainder by `256 ^ 4`, and `Nat.mod_mul` peels the base-256 digits off that from the top
  have e := Nat.mod_eq_of_lt h
  rw [Nat.mod_mul (a := 16777216) (b := 256), Nat.mod_mul (a := 65536) (b := 256), Nat.mod_mul (a := 256) (b := 256)] at e
  exact Eq.trans (by ac_rfl) e

theorem encode_length (se : Enveloper) (env : Envelope) : (se.encode env).length = 5 := rfl

theorem Enveloper.encode_data (cc : Enveloper) (env : Envelope) (hnt : env.trailer = false) :
    cc.encode env = (if env.compressed then 1 else 0) :: be32 env.length := by
  cases cc <;> simp [Enveloper.encode, Enveloper.encodeFlags, hnt]

/-- Handing out `k` of the `eR` bytes that are left of a five-byte envelope (both readers keep `eR`, not a position). -/
theorem pending_split (env : Bytes) (eR k : Nat) (hl : env.length = 5) (h5 : eR ≤ 5) (hk : k ≤ eR) :
    env.drop (5 - eR) = (env.drop (5 - eR)).take k ++ (if eR - k > 0 then env.drop (5 - (eR - k)) else []) := by
  have : (if eR - k > 0 then env.drop (5 - (eR - k)) else []) = (env.drop (5 - eR)).drop k := by
    rw [List.drop_drop,
      show 5 - eR + k = 5 - (eR - k) from (Nat.sub_add_comm h5).symm.trans (Nat.sub_sub_right 5 hk).symm]
    by_cases h : eR - k > 0
    · rw [if_pos h]
    · rw [if_neg h, Nat.eq_zero_of_not_pos h, Nat.sub_zero, List.drop_eq_nil_iff.mpr (Nat.le_of_eq hl)]
  rw [this, List.take_append_drop]

end Vanguard
