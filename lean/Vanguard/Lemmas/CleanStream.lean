import Vanguard.Lemmas.ReadSizes
import Vanguard.Lemmas.Chunking
/-!
  What the backend handler reads on the re-encoding path, for a well-formed request body (C01, request
  direction): exactly the client's messages, each converted and enveloped for the backend, in order,
  then a clean end.
-/
namespace Vanguard

/-- The bytes the backend is to read for one client frame: the backend's envelope and the converted message. -/
def Frame.converted (w : World) (pl : HandlePlan) (st : St) (ce : Enveloper) (x : Frame) : Option Bytes :=
  match trPrepare w pl st (x.msg ce).1 (x.msg ce).2 with
  | .ok (out, env) => some (env ++ out)
  | .error _ => none

/-- All frames can be converted; the concatenation of what the backend is to read. -/
def convertedAll (w : World) (pl : HandlePlan) (st : St) (ce : Enveloper) : List Frame → Option Bytes
  | [] => some []
  | x :: xs =>
    match x.converted w pl st ce, convertedAll w pl st ce xs with
    | some b, some bs => some (b ++ bs)
    | _, _ => none

theorem convertedAll_op (w : World) (pl : HandlePlan) (st st' : St) (ce : Enveloper) (h : st'.op = st.op) :
    ∀ fs, convertedAll w pl st' ce fs = convertedAll w pl st ce fs := by
  intro fs
  induction fs with
  | nil => rfl
  | cons x xs ih =>
    simp only [convertedAll, Frame.converted]
    rw [trPrepare_op w pl st st' h, ih]

theorem clean_stream (w : World) (pl : HandlePlan) (ce : Enveloper) (hprep : pl.clientReqNeedsPrep = false) :
    ∀ (fs : List Frame) (st : St) (cf : Bool) (out : Bytes),
      st.op.clientEnveloper = some ce → (∀ x ∈ fs, x.ok ce st.op.conf.maxMsg) →
      st.src.data = framesBytes fs → st.src.ending ≠ .unexpected →
      convertedAll w pl st ce fs = some out →
      Stream w pl st cf [] out .eof := by
  intro fs
  induction fs with
  | nil =>
    intro st cf out hce _ hd he hconv
    simp only [convertedAll, Option.some.injEq] at hconv
    subst hconv
    obtain ⟨src', h⟩ := readRequestMessage_short w st true ce hce (by rw [hd]; decide)
    rw [hd, show framesBytes [] = [] from rfl, shortErr_nil he] at h
    refine Stream.stop st cf .eof (by rw [h]) ?_
    rw [h]
    simp [trNext, hprep, hce]
  | cons x xs ih =>
    intro st cf out hce hok hd he hconv
    rw [framesBytes_cons] at hd
    obtain ⟨src', h, hdata, hend⟩ := readRequestMessage_frame w st true ce hce x (hok x List.mem_cons_self) _ hd
    rw [convertedAll] at hconv
    split at hconv
    next b bs hc hrest =>
      cases hconv
      unfold Frame.converted at hc
      split at hc
      next o1 e1 hp =>
        cases hc
        have htail := ih { st with src := src' } true bs hce (fun y hy => hok y (List.mem_cons_of_mem _ hy)) hdata
          (hend ▸ he) ((convertedAll_op w pl st { st with src := src' } ce rfl xs).trans hrest)
        -- the first of the four goals (the message reader did not panic) is closed by the `rfl` that `rw` tries
        refine Stream.fetch st cf _ .eof (x.msg ce).1 (x.msg ce).2 o1 e1 ?_ ?_ ?_ ?_ <;> rw [h]
        · rfl
        · exact (trPrepare_op w pl st { st with src := src' } rfl _ _).trans hp
        · by_cases hemp : e1 ++ o1 = []
          · -- an empty conversion for a target without envelopes: nothing to hand out for this message
            rw [hemp]; exact htail
          · exact Stream.pend _ true _ bs .eof hemp htail
      next => cases hc
    next => cases hconv

end Vanguard
