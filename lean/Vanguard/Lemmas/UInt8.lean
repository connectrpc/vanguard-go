import Vanguard.Model.Percent
import Vanguard.Lemmas.List
/-! Single bytes: `forall_uint8` and the hex digits of percent coding. -/
namespace Vanguard

/-- A predicate on bytes that holds for the 256 values `UInt8.ofNat n` holds for every byte.
    Used to lift `decide +kernel` over the whole finite table to `∀ b : UInt8`. -/
theorem forall_uint8 {p : UInt8 → Prop} (h : ∀ n : Fin 256, p (UInt8.ofNat n.val)) : ∀ b : UInt8, p b := by
  intro b
  have := h ⟨b.toNat, b.toNat_lt⟩
  simpa using this

theorem upperhex_nibble (n : UInt8) (hn : n < 16) : ishex (upperhex n) = true ∧ unhex (upperhex n) = n := by
  have h : ∀ k : Fin 16, ishex (upperhex (UInt8.ofNat k.val)) = true ∧
      unhex (upperhex (UInt8.ofNat k.val)) = UInt8.ofNat k.val := by decide +kernel
  simpa using h ⟨n.toNat, by simpa [UInt8.lt_iff_toNat_lt] using hn⟩

theorem nibbles : ∀ c : UInt8, c >>> 4 < 16 ∧ c &&& 15 < 16 ∧ ((c >>> 4) <<< 4 ||| (c &&& 15)) = c :=
  forall_uint8 (by decide +kernel)

theorem upperhex_roundtrip (c : UInt8) :
    ishex (upperhex (c >>> 4)) = true ∧ ishex (upperhex (c &&& 15)) = true ∧
    (unhex (upperhex (c >>> 4)) <<< 4 ||| unhex (upperhex (c &&& 15))) = c := by
  obtain ⟨hh, hl, hc⟩ := nibbles c
  obtain ⟨h1, h2⟩ := upperhex_nibble _ hh
  obtain ⟨l1, l2⟩ := upperhex_nibble _ hl
  exact ⟨h1, l1, by rw [h2, l2, hc]⟩

theorem ishex_printable {c : UInt8} (h : ishex c = true) : ((0x20 : UInt8) ≤ c && c ≤ (0x7E : UInt8)) = true := by
  simp only [ishex, Bool.or_eq_true, Bool.and_eq_true, decide_eq_true_eq, UInt8.le_iff_toNat_le] at h ⊢
  have e : ∀ n : Nat, (OfNat.ofNat n : UInt8).toNat = n % 256 := fun _ => rfl
  simp only [e] at h ⊢
  omega

theorem unescaped_printable {c : UInt8} (h : grpcShouldEscape c = false) :
    ((0x20 : UInt8) ≤ c && c ≤ (0x7E : UInt8)) = true := by
  simp only [grpcShouldEscape, Bool.or_eq_false_iff, decide_eq_false_iff_not, UInt8.not_lt] at h
  simpa using h.1

end Vanguard
