import Vanguard.Model.PathEscape
import Vanguard.Lemmas.UInt8
/-! `pathUnescape ∘ pathEscape`, byte by byte, in both modes. -/
namespace Vanguard

theorem pathEscape_single (s : Bytes) : pathEscape .single s = s.flatMap escapeByte := by
  fun_induction pathEscape .single s <;> simp_all

theorem escapeByte_cases (c : UInt8) :
    (isVariable c = true ∧ escapeByte c = [c] ∧ c ≠ 0x25) ∨
    (escapeByte c = [0x25, upperhex (c >>> 4), upperhex (c &&& 15)] ∧ ishex (upperhex (c >>> 4)) = true ∧
      ishex (upperhex (c &&& 15)) = true ∧ (unhex (upperhex (c >>> 4)) <<< 4 ||| unhex (upperhex (c &&& 15))) = c) := by
  unfold escapeByte
  cases h : isVariable c
  · exact .inr ⟨rfl, upperhex_roundtrip c⟩
  · exact .inl ⟨rfl, rfl, by rintro rfl; exact absurd h (by decide)⟩

/-- The escape written for a byte other than `/` is not the `%2F` that multi-segment mode keeps:
    `%2F` and `%2f` read back as `/`. -/
theorem esc_not_slash (c : UInt8) (hc : c ≠ 0x2F) :
    isHexSlash 0x25 (upperhex (c >>> 4)) (upperhex (c &&& 15)) = false := by
  have := (upperhex_roundtrip c).2.2
  apply Bool.eq_false_iff.mpr
  intro hs
  simp only [isHexSlash, Bool.and_eq_true, Bool.or_eq_true, beq_iff_eq] at hs
  rw [hs.1.2] at this
  rcases hs.2 with h | h <;> rw [h] at this <;> exact hc (this.symm.trans (by decide))

theorem unescape_cons_plain (mode : PathMode) (c : UInt8) (rest : Bytes) (h : c ≠ 0x25) :
    pathUnescape mode (c :: rest) = (pathUnescape mode rest).map (fun r => c :: r) := by
  have hc : (c == 0x25) = false := by simpa using h
  match rest with
  | [] => simp only [pathUnescape, hc, Bool.false_eq_true, if_false, Option.map_some]
  | [a] | a :: b :: r => simp only [pathUnescape, hc, Bool.false_eq_true, if_false]

theorem unescape_cons_esc (mode : PathMode) (a b : UInt8) (rest : Bytes) (ha : ishex a = true) (hb : ishex b = true)
    (hs : (mode == .multi && isHexSlash 0x25 a b) = false) :
    pathUnescape mode (0x25 :: a :: b :: rest) = (pathUnescape mode rest).map (fun r => (unhex a <<< 4 ||| unhex b) :: r) := by
  simp [pathUnescape, ha, hb, hs]

theorem unescape_escapeByte (mode : PathMode) (c : UInt8) (rest : Bytes) (hc : mode = .multi → c ≠ 0x2F) :
    pathUnescape mode (escapeByte c ++ rest) = (pathUnescape mode rest).map (fun r => c :: r) := by
  rcases escapeByte_cases c with ⟨_, he, hne⟩ | ⟨he, ha, hb, hv⟩
  · rw [he]; exact unescape_cons_plain _ _ _ hne
  · rw [he, List.cons_append, List.cons_append, List.cons_append, List.nil_append, unescape_cons_esc _ _ _ _ ha hb, hv]
    cases mode
    · rfl
    · simp [esc_not_slash c (hc rfl)]

theorem unescape_escape_single (s : Bytes) : pathUnescape .single (pathEscape .single s) = some s := by
  rw [pathEscape_single]
  induction s with
  | nil => rfl
  | cons c rest ih => rw [List.flatMap_cons, unescape_escapeByte .single c _ nofun, ih]; rfl

theorem unescape_multi_cons_slash (rest : Bytes) :
    pathUnescape .multi (0x25 :: 0x32 :: 0x46 :: rest) = (pathUnescape .multi rest).map (fun r => 0x25 :: 0x32 :: 0x46 :: r) := by
  rw [pathUnescape]; rfl

theorem unescape_escape_multi (s : Bytes) (h : (0x2F : UInt8) ∉ s) :
    pathUnescape .multi (pathEscape .multi s) = some (canonSlash s) := by
  fun_induction pathEscape .multi s with
  | case1 => rfl
  | case2 c =>
    have := unescape_escapeByte .multi c [] (fun _ hc => h (hc ▸ List.mem_cons_self))
    rw [List.append_nil] at this
    rw [this]; rfl
  | case3 c a ih =>
    rw [unescape_escapeByte _ c _ (fun _ hc => h (hc ▸ List.mem_cons_self)), ih (fun hm => h (List.mem_cons_of_mem _ hm))]
    rfl
  | case4 c a b rest hcond ih =>
    -- an escaped slash in the value: written as `%2F`, kept by the reader
    rw [unescape_multi_cons_slash,
      ih (fun hm => h (List.mem_cons_of_mem _ (List.mem_cons_of_mem _ (List.mem_cons_of_mem _ hm))))]
    simp only [Bool.and_eq_true, beq_iff_eq, true_and] at hcond
    -- by `rw`: as a simp lemma `canonSlash` also tries its catch-all equation, which is slow to fail
    rw [canonSlash, if_pos hcond]; rfl
  | case5 c a b rest hcond ih =>
    rw [unescape_escapeByte _ c _ (fun _ hc => h (hc ▸ List.mem_cons_self)), ih (fun hm => h (List.mem_cons_of_mem _ hm))]
    simp only [Bool.and_eq_true, beq_iff_eq, true_and] at hcond
    rw [canonSlash, if_neg hcond]; rfl

end Vanguard
