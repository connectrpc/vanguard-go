import Vanguard.Lemmas.Outcome
/-!
  The end of the RPC as the client reads it (C04, C05).

  `Sink.clientErr c k` is the RPC error a client of form `c` reads off what it received (`none` = it
  sees no error): the gRPC status in headers or trailers, the error of the end-of-stream / trailer
  frame, or the error body of a unary Connect response.  `Sink.clientTrailers` is the trailer
  metadata delivered inside an end frame.

  `reportEnd_relays`: the **first** end reported on an open response is exactly what the client
  reads - same error value (code, message, details), for every client form.  `SameWire` keeps it,
  so by C03's `nothing_after_the_end` nothing a handler does afterwards changes it.
-/
namespace Vanguard

def Item.err : Item → Option RpcErr
  | .raw _ => none
  | .endFrame _ e => e.err
  | .errBody e => some e

def Sink.endItem (k : Sink) : Option Item := k.items.find? Item.isEnd

def Sink.clientErr (c : ClientForm) (k : Sink) : Option RpcErr :=
  match c with
  | .grpc => if k.hdrEndSet then k.hdrEnd else if k.trailerEndSet then k.trailerEnd else none
  | .grpcWeb => if k.hdrEndSet then k.hdrEnd else k.endItem.bind Item.err
  | .connectStream | .connectPost | .connectGet => k.endItem.bind Item.err
  | .rest => none

theorem SameWire.clientErr {a b : Sink} (h : SameWire a b) (c : ClientForm) : b.clientErr c = a.clientErr c := by
  unfold Sink.clientErr Sink.endItem
  rw [h.items, h.hdrEnd, h.hdrEndSet, h.trailerEnd, h.trailerEndSet]

theorem SameWire.endItem {a b : Sink} (h : SameWire a b) : b.endItem = a.endItem := by
  unfold Sink.endItem; rw [h.items]

theorem find_end_none {l : List Item} (h : l.countP Item.isEnd = 0) : l.find? Item.isEnd = none := by
  rw [List.find?_eq_none]
  intro x hx
  have := (List.countP_eq_zero.mp h) x hx
  simpa using this

theorem find_end_append {l : List Item} (h : l.countP Item.isEnd = 0) (i : Item) (hi : i.isEnd = true) :
    (l ++ [i]).find? Item.isEnd = some i := by
  rw [List.find?_append, find_end_none h]
  simp [hi]

theorem items_writeItem (k : Sink) (i : Item) : (k.writeItem i).items = k.items ++ [i] := by
  unfold Sink.writeItem; by_cases hs : k.status.isNone = true <;> simp [hs]

theorem writeItem_fields (k : Sink) (i : Item) :
    (k.writeItem i).hdrEndSet = k.hdrEndSet ∧ (k.writeItem i).hdrEnd = k.hdrEnd ∧
    (k.writeItem i).trailerEndSet = k.trailerEndSet ∧ (k.writeItem i).trailerEnd = k.trailerEnd := by
  unfold Sink.writeItem; by_cases hs : k.status.isNone = true <;> simp [hs]

theorem write_fields (k : Sink) (b : Bytes) :
    (k.write b).hdrEndSet = k.hdrEndSet ∧ (k.write b).hdrEnd = k.hdrEnd ∧
    (k.write b).trailerEndSet = k.trailerEndSet ∧ (k.write b).trailerEnd = k.trailerEnd := by
  unfold Sink.write
  by_cases hs : k.status.isNone = true <;> by_cases hb : b.isEmpty = true <;> simp [hs, hb]

theorem writeHeader_fields (k : Sink) (c : Nat) :
    (k.writeHeader c).hdrEndSet = k.hdrEndSet ∧ (k.writeHeader c).hdrEnd = k.hdrEnd ∧
    (k.writeHeader c).trailerEndSet = k.trailerEndSet ∧ (k.writeHeader c).trailerEnd = k.trailerEnd ∧
    (k.writeHeader c).items = k.items := by
  unfold Sink.writeHeader; split <;> simp

theorem encodeEnd_endItem (c : ClientForm) (e : RespEnd) (inHdr : Bool) {k : Sink} (hk : k.items.countP Item.isEnd = 0) :
    (encodeEnd c e inHdr k).endItem = c.bodyEnd e inHdr := by
  rcases encodeEnd_eq c e inHdr k with h | ⟨rfl, rfl, h⟩ <;> rw [h]
  · cases hb : c.bodyEnd e inHdr with
    | none => exact find_end_none hk
    | some i =>
      unfold Sink.endItem
      rw [items_writeItem]
      exact find_end_append hk i (ClientForm.bodyEnd_isEnd hb)
  · exact find_end_none hk

/-- Does the client form lose an error that arrives after the head went out?  Only a unary Connect
    response (and REST, which this model does not render) has no place for it. -/
def ClientForm.hasLateEnd : ClientForm → Bool
  | .grpc | .grpcWeb | .connectStream => true
  | _ => false

theorem encodeEnd_late (c : ClientForm) (e : RespEnd) (k : Sink) (hk : k.endMarks = 0) (hc : c.hasLateEnd = true) :
    (encodeEnd c e false k).clientErr c = e.err := by
  obtain ⟨h1, h2, h3⟩ := marks_zero_fields hk
  have hi := encodeEnd_endItem c e false h1
  unfold Sink.clientErr
  cases c <;> simp only [ClientForm.hasLateEnd, Bool.false_eq_true] at hc
  case grpc => simp [encodeEnd, h2]      -- the status of the HTTP trailers
  case grpcWeb => rw [show (encodeEnd .grpcWeb e false k).hdrEndSet = k.hdrEndSet from (writeItem_fields k _).1, h2, hi]; rfl
  case connectStream => rw [hi]; rfl

theorem headSink_fields (w : World) (st : St) (hm0 : st.sink.endMarks = 0) :
    (headSink w st).hdrEndSet = (addResponseHeaders st.op.cform (clientMeta w st) st.sink).2.hdrEndSet ∧
    (headSink w st).hdrEnd = (addResponseHeaders st.op.cform (clientMeta w st) st.sink).2.hdrEnd ∧
    (headSink w st).items.countP Item.isEnd = 0 := by
  have hc : ∀ k : Sink, k.bodyRaw → k.items.countP Item.isEnd = 0 := fun k hk =>
    List.countP_eq_zero.mpr fun x hx => by simpa using hk x hx
  refine ⟨?_, ?_, hc _ (headSink_bodyRaw w st hm0)⟩ <;>
    obtain ⟨code, h | ⟨b, h⟩⟩ := headSink_cases w st <;> rw [h] <;>
    simp only [(write_fields _ _).1, (write_fields _ _).2.1, (writeHeader_fields _ _).1, (writeHeader_fields _ _).2.1]

theorem head_with_end (w : World) (st : St) (e : RespEnd) (hm0 : st.sink.endMarks = 0)
    (hend : (st.rw.respMeta.getD {}).end = some e) (hc : st.op.cform ≠ .rest) :
    (encodeEnd st.op.cform e true (headSink w st)).clientErr st.op.cform = e.err := by
  obtain ⟨h1, h2, hcount⟩ := headSink_fields w st hm0
  have hi := encodeEnd_endItem st.op.cform e true hcount
  have hgrpc : st.op.cform = .grpc ∨ st.op.cform = .grpcWeb →
      (headSink w st).hdrEndSet = true ∧ (headSink w st).hdrEnd = e.err := by
    intro h
    rw [h1, h2, addResponseHeaders_snd]
    have : (clientMeta w st).end = some e := hend
    rcases h with h | h <;> simp [h, this, ClientForm.headEnd]
  generalize headSink w st = k2 at hi hgrpc
  cases hcf : st.op.cform <;> rw [hcf] at hi
  case rest => exact absurd hcf hc
  -- a gRPC or gRPC-Web client reads the status the head carries (`encodeEnd` adds nothing to it)
  case grpc => simp [encodeEnd, Sink.clientErr, hgrpc (.inl hcf)]
  case grpcWeb => simp [encodeEnd, Sink.clientErr, hgrpc (.inr hcf)]
  case connectStream => unfold Sink.clientErr; rw [hi]; rfl
  case connectPost | connectGet =>
    unfold Sink.clientErr
    rw [hi]
    show (e.err.map Item.errBody).bind Item.err = e.err
    cases e.err <;> rfl

theorem flushHeaders_relays (w : World) (st : St) (e : RespEnd) (hg : Good st) (hf : st.rw.headersFlushed = false)
    (he : (st.rw.respMeta.getD {}).end = some e) (hc : st.op.cform ≠ .rest) :
    (flushHeaders w st).1.sink.clientErr st.op.cform = e.err := by
  rw [flushHeaders_eq w st hf, he]
  exact head_with_end w st e (hg.opened (hg.not_flushed_open hf)) he hc

def CanTell (st : St) : Prop :=
  st.op.cform ≠ .rest ∧ (st.op.cform.hasLateEnd = true ∨ st.rw.headersFlushed = false)

/-- **The first end reported on an open response is what the client reads.**  For a client form
    that can still be told after the head went out (gRPC, gRPC-Web, Connect streaming) in every state;
    for a unary Connect client while the head has not been sent (its response is buffered until the end
    is known). -/
theorem reportEnd_relays (w : World) (st : St) (e : RespEnd) (hg : Good st) (hopen : st.rw.endWritten = false)
    (ht : CanTell st) : (reportEnd w st e).1.sink.clientErr st.op.cform = e.err := by
  have hg1 := hg.withEnd hopen e
  rw [reportEnd_eq w st e hopen]
  split
  · rename_i hfl
    rw [(sameWire_flush _).clientErr]
    exact encodeEnd_late _ { e with trailers := effTrailers st e } _ (hg1.opened hopen)
      (ht.2.resolve_right (by simp [hfl]))
  · rename_i hfl
    rw [(sameWire_flush _).clientErr]
    exact flushHeaders_relays w (st.withEnd e) { e with trailers := effTrailers st e } hg1 (Bool.eq_false_iff.2 hfl) rfl ht.1

theorem reportError_relays (w : World) (st : St) (err : Err) (hg : Good st) (hopen : st.rw.endWritten = false)
    (ht : CanTell st) :
    (reportError w st err).1.sink.clientErr st.op.cform =
      some (genErr (match err with | .rpc code => code | _ => 2)) := by
  obtain ⟨e, h, he⟩ := reportError_eq w st err
  rw [h, reportEnd_relays w st e hg hopen ht]
  exact he

/-- The end of the RPC taken from the HTTP trailers the backend handler set (a gRPC backend's
    `Grpc-Status`, `Grpc-Message`, `Grpc-Status-Details-Bin`) is what the client reads. -/
theorem rwCloseEnd_relays_trailers (w : World) (tb : Tables) (st : St) (e : RespEnd) (hg : Good st)
    (hopen : st.rw.endWritten = false) (ht : CanTell st) (hrm : (st.rw.respMeta.getD {}).end = none)
    (hx : st.op.sform.extractEndFromTrailers tb (httpExtractTrailers st.hdr (st.rw.respMeta.getD {}).pendingTrailerKeys).1 = some e) :
    (rwCloseEnd w tb st).1.sink.clientErr st.op.cform = e.err := by
  unfold rwCloseEnd
  simp only [hopen, Bool.false_eq_true, if_false, hrm]
  obtain ⟨hrw, -, hop⟩ := St.setHdr_frame st (httpExtractTrailers st.hdr (st.rw.respMeta.getD {}).pendingTrailerKeys).2
  rw [hop, hx]
  simp only
  have hg1 := (setHdr_ev st (httpExtractTrailers st.hdr (st.rw.respMeta.getD {}).pendingTrailerKeys).2 hg).1
  have := reportEnd_relays w _ e hg1 (by rw [hrw]; exact hopen) ⟨by rw [hop]; exact ht.1, by rw [hop, hrw]; exact ht.2⟩
  rw [hop] at this
  exact this

/-- `d` is the end-of-stream message as the writers see it after inflating it (when it is flagged
    compressed, not empty, and a response compression is in force). -/
def EndPlain (w : World) (st : St) (compressed : Bool) (data d : Bytes) : Prop :=
  ((compressed && !data.isEmpty) = false ∧ d = data) ∨
  ((compressed && !data.isEmpty) = true ∧ st.rw.cRespComp = none ∧ d = data) ∨
  (∃ z, (compressed && !data.isEmpty) = true ∧ st.rw.cRespComp = some z ∧
     decompressLimited w z data st.op.conf.maxMsg = .ok d)

end Vanguard
