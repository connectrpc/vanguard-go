import Vanguard.Lemmas.Serve
/-!
  # What the writers below `responseWriter` can do to the request state

  The re-framing and the re-encoding writer (`envelopingWriter`, `transformingWriter`, the handling of
  the end-of-stream message they share, their `Close`) change the request state in three ways only:
  they hand bytes to the downstream writer, flush after a message, and end the RPC (`reportEnd`; reporting
  an error is a case of it, `reportError_eq`).  `WrReach w G a b` is the closure of those three steps; every
  writer function is shown to stay inside it, loops included, for any backend output and any split of it.
  A property of the response side that survives the three steps therefore survives every `Write`.

  `G` says whether the derivation also records that bytes went down only while the RPC was open
  (`G = True`: what "nothing after the end" needs, and what holds when the writer starts on an open
  RPC) or not (`G = False`: no hypothesis on the start state).

  The lemmas about a function `f` take the call as an equation `f … = r`: a caller that has
  destructured the call (`fun_induction` does) passes that equation, any other passes `rfl`.
-/
namespace Vanguard

inductive WrReach (w : World) (G : Prop) : St → St → Prop
  | refl (a : St) : WrReach w G a a
  | fin {a b : St} (h : WrReach w G a b) (e : RespEnd) : WrReach w G a (reportEnd w b e).1
  | down {a b : St} (h : WrReach w G a b) (hopen : G → b.rw.endWritten = false) (x : Bytes) :
      WrReach w G a (writeDown w b x).1
  | flush {a b : St} (h : WrReach w G a b) : WrReach w G a (flushMessage b)

variable {w : World} {G : Prop} {tb : Tables}

theorem WrReach.trans {a b c : St} (h1 : WrReach w G a b) (h2 : WrReach w G b c) : WrReach w G a c := by
  induction h2 with
  | refl => exact h1
  | fin _ e ih => exact .fin ih e
  | down _ ho x ih => exact .down ih ho x
  | flush _ ih => exact .flush ih

theorem WrReach.err_eq {a b : St} {e : Err} {r : St × Bool} (h : WrReach w G a b) (hx : reportError w b e = r) :
    WrReach w G a r.1 := by
  obtain ⟨e', he, _⟩ := reportError_eq w b e
  rw [← hx, he]; exact h.fin e'

theorem writeDown_ok (w : World) (st : St) (b : Bytes) (hopen : st.rw.endWritten = false)
    (hok : (writeDown w st b).2.1 = false) : (writeDown w st b).1.rw.endWritten = false := by
  unfold writeDown at hok ⊢
  split
  · rename_i buf hb
    simp only [hb] at hok
    split
    · rename_i hlim; simp [hlim] at hok
    · exact hopen
  · exact hopen

theorem flushMessage_open (st : St) : (flushMessage st).rw.endWritten = st.rw.endWritten := by
  unfold flushMessage; split <;> rfl

theorem WrReach.down_eq {a b : St} {x : Bytes} {r : St × Bool × Bool} (h : WrReach w G a b)
    (hopen : G → b.rw.endWritten = false) (hx : writeDown w b x = r) :
    WrReach w G a r.1 ∧ (r.2.1 = false → G → r.1.rw.endWritten = false) :=
  hx ▸ ⟨h.down hopen x, fun hok g => writeDown_ok w b x (hopen g) hok⟩

/-! Each lemma: the function stays inside `WrReach`, and (for the parts of a `Write` that can be
  followed by more writing) if it did not fail the RPC is still open. -/

theorem handleEndMessage_reach {st : St} {c : Bool} {d : Bytes} {rep : Bool} {r : St × Option Err × Bool}
    (hx : handleEndMessage w tb st c d rep = r) : WrReach w G st r.1 := by
  subst hx
  fun_cases handleEndMessage w tb st c d rep
  · exact .err_eq (.refl st) rfl
  · exact .refl st
  · exact .err_eq (.refl st) rfl
  · exact .fin (.refl st) _

theorem ewInit_reach {st : St} {e : EW} {r : St × EW × Bool} (hx : ewInit w st e = r)
    (hopen : G → st.rw.endWritten = false) :
    WrReach w G st r.1 ∧ (r.2.1.err = false → G → r.1.rw.endWritten = false) := by
  subst hx
  fun_cases ewInit w st e
  -- a backend without envelopes and a declared length: too long, or the client's envelope goes down (and fails, or not)
  case case5 => exact ⟨.err_eq (.refl st) ‹_›, nofun⟩
  case case6 => exact ⟨(WrReach.down_eq (.refl st) hopen ‹_›).1, nofun⟩
  case case7 =>
    have h := WrReach.down_eq (.refl st) hopen ‹_›
    exact ⟨h.1, fun _ => h.2 (by simpa using ‹¬_ = true›)⟩
  all_goals exact ⟨.refl st, fun _ => hopen⟩

theorem ewWritePiece_reach {st : St} {e : EW} {piece : Bytes} {r : St × EW × Bool × Bool}
    (hx : ewWritePiece w st e piece = r) (hopen : G → st.rw.endWritten = false) :
    WrReach w G st r.1 ∧ (r.2.2.1 = false → G → r.1.rw.endWritten = false) := by
  subst hx
  fun_cases ewWritePiece w st e piece
  case case2 => exact WrReach.down_eq (.refl st) hopen ‹_›   -- payload bytes go down
  case case4 => exact ⟨.err_eq (.refl st) ‹_›, nofun⟩        -- the buffered body outgrows the limit
  all_goals exact ⟨.refl st, fun _ => hopen⟩

theorem ewEnvelopeWritten_reach {st : St} {e : EW} {r : St × EW × Bool × Bool}
    (hx : ewEnvelopeWritten w st e = r) (hopen : G → st.rw.endWritten = false) :
    WrReach w G st r.1 ∧ (r.2.2.1 = false → G → r.1.rw.endWritten = false) := by
  subst hx
  -- the envelope of a data message goes down, if the client has envelopes
  have down : ∀ (env : Envelope) {r : St × Bool × Bool},
      (match st.op.clientEnveloper with
        | some ce => writeDown w st (ce.encode env)
        | none => (st, false, false)) = r → WrReach w G st r.1 ∧ (r.2.1 = false → G → r.1.rw.endWritten = false) := by
    intro env r hx
    split at hx
    · exact WrReach.down_eq (.refl st) hopen hx
    · subst hx; exact ⟨.refl st, fun _ => hopen⟩
  fun_cases ewEnvelopeWritten w st e
  -- no envelopes on the backend's side, illegal flags, an end-of-stream message above the limit: reported
  case case1 x | case2 x | case3 x => exact ⟨.err_eq (.refl st) x, nofun⟩
  case case4 | case7 => exact ⟨.refl st, fun _ => hopen⟩   -- the end-of-stream message is to be collected; (not five bytes)
  case case5 x => exact ⟨(down _ x).1, nofun⟩
  case case6 x hf => exact ⟨(down _ x).1, fun _ => (down _ x).2 (by simpa using hf)⟩

/-- A call that went on (`if failed || p then … else …`) had not failed. -/
theorem not_failed {failed p : Bool} (h : ¬(failed || p) = true) : failed = false :=
  (Bool.or_eq_false_iff.mp ((Bool.not_eq_true _).mp h)).1

theorem ewLoop_reach {n : Nat} {st : St} {e : EW} {data : Bytes} {r : St × EW × Bool × Bool}
    (hx : ewLoop w tb n st e data = r) (hpre : G → e.err = true ∨ st.rw.endWritten = false) : WrReach w G st r.1 := by
  subst hx
  -- the paths of one round, in the order of the function text
  fun_induction ewLoop w tb n st e data
  case case1 | case2 => exact .refl _   -- out of fuel; latched
  all_goals
    have hopen := fun g => (hpre g).resolve_left ‹_›
    have h1 := ewWritePiece_reach ‹_› hopen
  -- the piece ends the call: all bytes taken, a failed write, a trailer flag without a trailer buffer
  case case3 | case4 | case10 => exact h1.1
  all_goals have ho1 := h1.2 (not_failed ‹_›)
  -- a message is complete: flush and go on
  case case11 ih => exact h1.1.trans (.trans (.flush (.refl _)) (ih fun g => .inr (by rw [flushMessage_open]; exact ho1 g)))
  -- an envelope is complete
  case case5 =>
    have h2 := ewEnvelopeWritten_reach ‹_› ho1
    exact h1.1.trans h2.1
  case case6 ih =>
    have h2 := ewEnvelopeWritten_reach ‹_› ho1
    exact h1.1.trans (h2.1.trans (ih fun g => .inr (h2.2 (not_failed ‹_›) g)))
  -- the end-of-stream message is complete
  all_goals have h3 := handleEndMessage_reach (G := G) ‹_›
  case case7 | case8 => exact h1.1.trans h3
  case case9 ih => exact h1.1.trans (h3.trans (ih fun _ => .inl rfl))

theorem ewWrite_reach {st : St} {e : EW} {data : Bytes} {r : St × EW × Bool × Bool}
    (hx : ewWrite w tb st e data = r) (hopen : G → st.rw.endWritten = false) : WrReach w G st r.1 := by
  subst hx
  fun_cases ewWrite w tb st e data
  all_goals have h0 := ewInit_reach ‹_› hopen
  case case1 | case2 => exact h0.1
  all_goals have ho0 := h0.2 (by simp_all)
  case case3 =>
    have h1 := ewWritePiece_reach ‹_› ho0
    exact h0.1.trans h1.1
  case case4 => exact h0.1.trans (ewLoop_reach rfl fun g => .inr (ho0 g))

theorem ewCloseFlush_reach {st : St} {e : EW} {r : St × EW × Bool} (hx : ewCloseFlush w st e = r) :
    WrReach w G st r.1 := by
  subst hx
  fun_cases ewCloseFlush w st e
  -- in the cases that write, the function itself has checked that the RPC is open
  case case2 =>
    have h1 := WrReach.down_eq (G := G) (.refl st) (fun _ => by simp_all) ‹_›
    exact h1.1
  case case3 =>
    have h1 := WrReach.down_eq (G := G) (.refl st) (fun _ => by simp_all) ‹writeDown w st _ = _›
    have h2 := WrReach.down_eq h1.1 (h1.2 (by simp_all)) ‹_›
    exact h2.1
  all_goals exact .refl st

theorem ewClose_reach {st : St} {e : EW} {r : St × Bool} (hx : ewClose w st e = r) : WrReach w G st r.1 := by
  subst hx
  fun_cases ewClose w st e
  all_goals have h := ewCloseFlush_reach (G := G) ‹_›
  case case3 => exact h.err_eq rfl
  all_goals exact h

/-- What `transformingWriter.flushMessage` makes of the envelope of a converted message: nothing is written (the
    message is too long, or the client has no envelopes), or the envelope `x` is written from `st`, and a failure
    latches the writer. -/
inductive TwEnvelope (w : World) (st : St) : St × Option Err × Bool × Bool → Prop
  | tooLong : TwEnvelope w st (st, some (.rpc 8), false, false)
  | noEnvelopes : TwEnvelope w st (st, none, false, false)
  | sent {x : Bytes} {d : St × Bool × Bool} (hd : writeDown w st x = d) :
      TwEnvelope w st (d.1, if d.2.1 = true then some Err.closed else none, d.2.2, d.2.1)

/-- (In variables, so that the text of `twFlushMessage` is an instance by unification.) -/
theorem twEnvelope_cases {st : St} {oce : Option Enveloper} {c : Prop} [Decidable c] {bytesOf : Enveloper → Bytes}
    {r : St × Option Err × Bool × Bool}
    (hx : (match oce with
      | some ce => if c then (st, some (Err.rpc 8), false, false) else
          match writeDown w st (bytesOf ce) with
          | (st, failed, p) => (st, if failed = true then some Err.closed else none, p, failed)
      | none => (st, none, false, false)) = r) : TwEnvelope w st r := by
  subst hx
  split
  · split
    · exact .tooLong
    · exact .sent rfl
  · exact .noEnvelopes

theorem TwEnvelope.reach {st : St} {r : St × Option Err × Bool × Bool} (h : TwEnvelope w st r)
    (hopen : G → st.rw.endWritten = false) : WrReach w G st r.1 ∧ (r.2.1 = none → G → r.1.rw.endWritten = false) := by
  cases h with
  | tooLong => exact ⟨.refl st, nofun⟩
  | noEnvelopes => exact ⟨.refl st, fun _ => hopen⟩
  | sent hd =>
    have h := WrReach.down_eq (.refl st) hopen hd
    exact ⟨h.1, fun hn => h.2 (by simpa using hn)⟩

theorem twFlushMessage_reach {st : St} {t : TW} {r : St × TW × Option Err × Bool}
    (hx : twFlushMessage w tb st t = r) (hopen : G → st.rw.endWritten = false) :
    WrReach w G st r.1 ∧ (r.2.2.1 = none → r.2.2.2 = false → G → r.2.1.err = true ∨ r.1.rw.endWritten = false) := by
  subst hx
  fun_cases twFlushMessage w tb st t
  -- the end-of-stream message: an error, or the writer is latched
  case case1 x hbad => exact ⟨handleEndMessage_reach x, fun h1 h2 => by dsimp only at h1 h2; subst h1 h2; cases hbad⟩
  case case2 x _ => exact ⟨handleEndMessage_reach x, fun _ _ _ => .inl rfl⟩
  case case3 => exact ⟨.refl st, nofun⟩      -- the message does not convert
  -- a data message: its envelope did not go out; the message did not; or both went and are flushed
  all_goals have henv := (twEnvelope_cases ‹_ = (_, _, _, _)›).reach hopen
  case case4 hbad => exact ⟨henv.1, fun h1 h2 => by dsimp only at h1 h2; subst h1 h2; cases hbad⟩
  all_goals have h := WrReach.down_eq henv.1 (henv.2 (by simp_all)) ‹writeDown w _ _ = _›
  case case5 => exact ⟨h.1, nofun⟩
  case case6 => exact ⟨.flush h.1, fun _ _ g => .inr (by rw [flushMessage_open]; exact h.2 (not_failed ‹_›) g)⟩

theorem twLoop_reach {n : Nat} {st : St} {t : TW} {data : Bytes} {r : St × TW × Bool × Bool}
    (hx : twLoop w tb n st t data = r) (hpre : G → t.err = true ∨ st.rw.endWritten = false) : WrReach w G st r.1 := by
  subst hx
  fun_induction twLoop w tb n st t data
  -- out of fuel, latched, more buffered than expected, all bytes buffered, no five envelope bytes
  case case1 | case2 | case3 | case4 | case8 => exact .refl _
  all_goals have hopen := fun g => (hpre g).resolve_left ‹_›
  -- an envelope is complete: illegal flags, a message above the limit, or go on
  case case5 | case6 => exact .err_eq (.refl _) ‹_›
  case case7 ih => exact ih fun g => .inr (hopen g)
  -- a message is complete: `flushMessage`, then a panic, a reported error, the end, or go on
  all_goals have key := twFlushMessage_reach ‹_› hopen
  case case9 | case11 => exact key.1
  case case10 => exact key.1.err_eq ‹_›
  case case12 hp _ hnone ih =>
    refine key.1.trans (ih (key.2 ?_ (by simpa using hp)))
    cases ‹Option Err› with
    | none => rfl
    | some e => exact absurd rfl (hnone e)

theorem twWrite_reach {st : St} {t : TW} {data : Bytes} {r : St × TW × Bool × Bool}
    (hx : twWrite w tb st t data = r) (hopen : G → st.rw.endWritten = false) : WrReach w G st r.1 := by
  subst hx
  fun_cases twWrite w tb st t data
  case case2 => exact .err_eq (.refl st) ‹_›                      -- a backend without envelopes: the buffered body outgrows the limit
  case case4 => exact twLoop_reach rfl fun g => .inr (hopen g)
  all_goals exact .refl st

theorem twClose_reach {st : St} {t : TW} {r : St × Bool} (hx : twClose w tb st t = r) : WrReach w G st r.1 := by
  subst hx
  fun_cases twClose w tb st t
  case case1 | case6 => exact .refl st      -- ended already; nothing pending
  case case5 => exact .err_eq (.refl st) rfl     -- an unfinished envelope or message
  -- a backend without envelopes: the buffered body is the one message
  all_goals have key := twFlushMessage_reach (G := G) ‹_› fun _ => by simp_all
  case case3 => exact key.1.err_eq rfl
  all_goals exact key.1

theorem rwCloseWriter_reach (w : World) (G : Prop) (tb : Tables) (st : St) :
    WrReach w G st (rwCloseWriter w tb st).1 ∨ ∃ b kind, rwCloseWriter w tb st = errorWriterClose w tb st b kind := by
  fun_cases rwCloseWriter w tb st
  case case1 => exact .inl (ewClose_reach rfl)      -- the RPC has ended: only `Close` of the writer
  case case4 => exact .inl (twClose_reach rfl)
  case case7 => exact .inr ⟨_, _, rfl⟩
  case case8 | case9 => exact .inl (.refl st)
  -- while the RPC is open, `Close` first flushes with an empty `Write`, which may panic
  all_goals have hopen : G → st.rw.endWritten = false := fun _ => (Bool.not_eq_true _).mp ‹_›
  case case2 => exact .inl (ewWrite_reach rfl hopen)
  case case3 => exact .inl ((ewWrite_reach rfl hopen).trans (ewClose_reach rfl))
  case case5 => exact .inl (twWrite_reach rfl hopen)
  case case6 => exact .inl ((twWrite_reach rfl hopen).trans (twClose_reach rfl))

theorem ewInit_open (w : World) (st : St) (e : EW) (hopen : st.rw.endWritten = false) :
    (ewInit w st e).2.1.err = false → (ewInit w st e).1.rw.endWritten = false :=
  fun h => (ewInit_reach (G := True) rfl fun _ => hopen).2 h trivial

theorem ewWritePiece_open (w : World) (st : St) (e : EW) (piece : Bytes) (hopen : st.rw.endWritten = false) :
    (ewWritePiece w st e piece).2.2.1 = false → (ewWritePiece w st e piece).1.rw.endWritten = false :=
  fun h => (ewWritePiece_reach (G := True) rfl fun _ => hopen).2 h trivial

theorem ewEnvelopeWritten_open (w : World) (st : St) (e : EW) (hopen : st.rw.endWritten = false) :
    (ewEnvelopeWritten w st e).2.2.1 = false → (ewEnvelopeWritten w st e).1.rw.endWritten = false :=
  fun h => (ewEnvelopeWritten_reach (G := True) rfl fun _ => hopen).2 h trivial

end Vanguard
