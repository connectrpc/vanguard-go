import Vanguard.Lemmas.Frame
-- `ReadReach` takes the matches of `copyAllLimited` apart too: a module that imports both (C11) sees Lean's
-- auxiliary lemmas for them once only if one of the two imports the other
import Vanguard.Lemmas.ReadReach
import Vanguard.Lemmas.List
/-! The primitive readers over the client's body (`Read`, `io.ReadFull`, `hardLimitReader` and `io.Copy` from it, the
  exact reader of one message) as functions of the body's bytes and of how it ends, not of the pieces it arrives in. -/
namespace Vanguard

/-- All bytes the client will still deliver. -/
def Source.data (src : Source) : Bytes := src.chunks.flatten

theorem filter_nonempty_flatten (cs : List Bytes) : (cs.filter (fun c => !c.isEmpty)).flatten = cs.flatten := by
  induction cs with
  | nil => rfl
  | cons c rest ih => cases c <;> simp [ih]

theorem Source.read_empty (src : Source) (n : Nat) (h : src.data = []) :
    src.read n = ([], some src.ending.err, { src with chunks := [] }) := by
  have : src.chunks.filter (fun c => !c.isEmpty) = [] :=
    List.filter_eq_nil_iff.mpr fun c hc => by simp [List.flatten_eq_nil_iff.mp h c hc]
  rw [Source.read, this]

theorem SrcEnd.err_cases (e : SrcEnd) : e.err = .eof ∨ e.err = .unexpectedEOF := by cases e <;> simp [SrcEnd.err]

theorem flatten_keep (l : Bytes) (rest : List Bytes) :
    (if l.isEmpty then rest else l :: rest).flatten = l ++ rest.flatten := by
  cases l <;> rfl

theorem Source.read_spec {src : Source} {n : Nat} {r : Bytes × Option Err × Source} (x : src.read n = r) :
    r.1 ++ r.2.2.data = src.data ∧ r.2.2.ending = src.ending ∧ r.1.length ≤ n ∧ (0 < n → r.2.1 = none → r.1 ≠ []) ∧
    (∀ err, r.2.1 = some err → r.2.2.data = [] ∧ err = src.ending.err ∧ (r.1 = [] ∨ src.ending = .eofWithData)) := by
  subst x
  have hf := filter_nonempty_flatten src.chunks
  fun_cases Source.read src n
  case case1 h =>
    -- no piece is left
    rw [h] at hf
    exact ⟨hf, rfl, Nat.zero_le _, fun _ => nofun, fun err h => ⟨rfl, (Option.some.inj h).symm, .inl rfl⟩⟩
  case case2 c rest hc hn =>
    -- `Read(0)`
    rw [hc] at hf
    exact ⟨hf, rfl, Nat.zero_le _, fun h => absurd (eq_of_beq hn) (Nat.ne_of_gt h), fun _ => nofun⟩
  case case3 c rest hc hn rest' e =>
    -- from the first non-empty piece `c`
    have hne : c.take n ≠ [] := by
      have := List.mem_filter.mp (hc ▸ List.mem_cons_self : c ∈ src.chunks.filter _)
      cases c with
      | nil => simp at this
      | cons _ _ => cases n with
        | zero => exact absurd rfl hn
        | succ _ => nofun
    refine ⟨?_, rfl, List.length_take_le .., fun _ _ => hne, fun err h => ?_⟩
    · rw [Source.data, Source.data, ← hf, hc, flatten_keep, List.flatten_cons, ← List.append_assoc, List.take_append_drop]
    · dsimp only [e] at h
      split at h
      next hcnd =>
        cases h
        simp only [Bool.and_eq_true, beq_iff_eq] at hcnd
        exact ⟨by rw [Source.data, List.isEmpty_iff.mp hcnd.1]; rfl, by rw [hcnd.2]; rfl, .inr hcnd.2⟩
      next => cases h

theorem Source.read_end {src : Source} {n : Nat} {b : Bytes} {err : Err} {src' : Source}
    (x : src.read n = (b, some err, src')) :
    b = src.data ∧ src'.data = [] ∧ src'.ending = src.ending ∧ err = src.ending.err := by
  obtain ⟨hcat, hend, -, -, herr⟩ := Source.read_spec x
  obtain ⟨hnil, he, -⟩ := herr err rfl
  dsimp only at hcat hend hnil
  rw [hnil, List.append_nil] at hcat
  exact ⟨hcat, hnil, hend, he⟩

/-- The error a reader gets when the body ends before `k` bytes were read. -/
def shortErr (ending : SrcEnd) (got : Bytes) : Err :=
  if ending == .unexpected then .unexpectedEOF else if got.isEmpty then .eof else .unexpectedEOF

/-- `shortErr` from the error of the `Read` that found the end of the body, as `io.ReadFull` derives it. -/
theorem shortErr_eq (ending : SrcEnd) (got : Bytes) :
    shortErr ending got = match ending.err with
      | .eof => if got.isEmpty then .eof else .unexpectedEOF
      | err => err := by
  cases ending <;> rfl

theorem shortErr_cases (ending : SrcEnd) (got : Bytes) :
    shortErr ending got = .eof ∨ shortErr ending got = .unexpectedEOF := by
  unfold shortErr
  split
  · exact .inr rfl
  · split
    · exact .inl rfl
    · exact .inr rfl

theorem shortErr_nil {ending : SrcEnd} (h : ending ≠ .unexpected) : shortErr ending [] = .eof := by
  cases ending <;> first | rfl | exact absurd rfl h

theorem shortErr_cons (ending : SrcEnd) (x : UInt8) (xs : Bytes) : shortErr ending (x :: xs) = .unexpectedEOF := by
  cases ending <;> rfl

/-- The loop needs a step per byte it returns, or one more than the body has bytes. -/
theorem readExactly_spec (fuel : Nat) (src : Source) (k : Nat) (acc : Bytes)
    (hf : k < fuel ∨ src.data.length + 1 < fuel) :
    ∃ src', readExactly fuel src k acc =
        (acc ++ src.data.take k, if k ≤ src.data.length then none else some (shortErr src.ending (acc ++ src.data)), src') ∧
      src'.data = src.data.drop k ∧ src'.ending = src.ending := by
  fun_induction readExactly fuel src k acc
  case case1 => exact (hf.elim (Nat.not_lt_zero _) (Nat.not_lt_zero _)).elim
  case case2 src k acc hk =>
    obtain rfl : k = 0 := eq_of_beq hk
    exact ⟨src, by rw [List.take_zero, List.append_nil, if_pos (Nat.zero_le _)], rfl, rfl⟩
  case case3 fuel src k acc hk b e src1 x hfull =>
    -- this piece completes the `k` bytes
    obtain ⟨hcat, hend, hle, -, -⟩ := Source.read_spec x
    dsimp only at hcat hle
    obtain rfl : b.length = k := Nat.le_antisymm hle hfull
    refine ⟨src1, ?_, by rw [← hcat, List.drop_left], hend⟩
    rw [← hcat, List.take_left, if_pos (by rw [List.length_append]; exact Nat.le_add_right ..)]
  case case4 fuel src k acc hk b src1 hfull x ih =>
    -- more is needed, and the piece was not empty
    obtain ⟨hcat, hend, hle, hpos, -⟩ := Source.read_spec x
    dsimp only at hcat hend hle hpos
    have hk : 0 < k := Nat.pos_of_ne_zero fun h => hk (beq_iff_eq.mpr h)
    have hb := List.length_pos_iff.mpr (hpos hk rfl)
    have hlen : src.data.length = b.length + src1.data.length := by rw [← hcat, List.length_append]
    have hlt : src1.data.length < src.data.length := by rw [hlen]; exact Nat.lt_add_of_pos_left hb
    obtain ⟨src', h1, h2, h3⟩ := ih <| hf.imp
      (fun h => Nat.lt_of_lt_of_le (Nat.sub_lt hk hb) (Nat.le_of_lt_succ h))
      (fun h => Nat.lt_of_lt_of_le (Nat.succ_lt_succ hlt) (Nat.le_of_lt_succ h))
    refine ⟨src', ?_, by rw [h2, ← hcat, List.drop_append, List.drop_of_length_le hle, List.nil_append], h3.trans hend⟩
    rw [h1, hend, hlen, ← hcat, List.take_append, List.take_of_length_le hle]
    simp only [List.append_assoc, Nat.sub_le_iff_le_add']
  case case5 fuel src k acc hk b src1 hfull x =>
    -- the body has ended, cleanly
    obtain ⟨rfl, hnil, hend, he⟩ := Source.read_end x
    have hshort : src.data.length ≤ k := Nat.le_of_lt (Nat.lt_of_not_le hfull)
    refine ⟨src1, ?_, by rw [hnil, List.drop_of_length_le hshort], hend⟩
    rw [List.take_of_length_le hshort, if_neg hfull, shortErr_eq, ← he]
  case case6 fuel src k acc hk b src1 hfull err hne x =>
    -- the body is cut
    obtain ⟨rfl, hnil, hend, he⟩ := Source.read_end x
    have hshort : src.data.length ≤ k := Nat.le_of_lt (Nat.lt_of_not_le hfull)
    refine ⟨src1, ?_, by rw [hnil, List.drop_of_length_le hshort], hend⟩
    rw [List.take_of_length_le hshort, if_neg hfull, shortErr_eq, ← he]
    split
    · exact absurd rfl hne
    · rfl

theorem Source.fuel_ge (src : Source) : src.data.length + 4 ≤ src.fuel := by
  unfold Source.fuel Source.data
  rw [List.length_flatten]
  exact Nat.add_le_add_right (Nat.le_add_left ..) 4

theorem readExactly_ok {src : Source} {k : Nat} {hd : Bytes} {src' : Source}
    (x : readExactly src.fuel src k [] = (hd, none, src')) :
    src.data = hd ++ src'.data ∧ hd.length = k ∧ src'.ending = src.ending := by
  obtain ⟨s, h, hdrop, hend⟩ := readExactly_spec src.fuel src k []
    (.inr (Nat.lt_of_lt_of_le (Nat.add_lt_add_left (by decide : 1 < 4) _) src.fuel_ge))
  rw [x] at h
  by_cases hk : k ≤ src.data.length
  · rw [if_pos hk] at h
    cases h
    exact ⟨by rw [hdrop]; exact (List.take_append_drop k _).symm, List.length_take_of_le hk, hend⟩
  · rw [if_neg hk] at h
    cases h

theorem readExactly_err {src : Source} {k : Nat} {hd : Bytes} {err : Err} {src' : Source}
    (x : readExactly src.fuel src k [] = (hd, some err, src')) :
    hd = src.data ∧ src.data.length < k ∧ err = shortErr src.ending src.data ∧ src'.data = [] ∧ src'.ending = src.ending := by
  obtain ⟨s, h, hdrop, hend⟩ := readExactly_spec src.fuel src k []
    (.inr (Nat.lt_of_lt_of_le (Nat.add_lt_add_left (by decide : 1 < 4) _) src.fuel_ge))
  rw [x] at h
  by_cases hk : k ≤ src.data.length
  · rw [if_pos hk] at h
    cases h
  · rw [if_neg hk] at h
    cases h
    have hlt := Nat.lt_of_not_le hk
    exact ⟨List.take_of_length_le (Nat.le_of_lt hlt), hlt, rfl, by rw [hdrop, List.drop_of_length_le (Nat.le_of_lt hlt)], hend⟩

theorem readExactly_five {src : Source} {hd : Bytes} {src' : Source}
    (x : readExactly src.fuel src 5 [] = (hd, none, src')) : ∃ f a b c d, hd = [f, a, b, c, d] :=
  list_len5 hd (readExactly_ok x).2.1

theorem readExactly_len {src : Source} {k : Nat} {r : Bytes × Option Err × Source}
    (x : readExactly src.fuel src k [] = r) :
    r.2.2.data.length ≤ src.data.length ∧
    (r.2.1 = none → r.1.length = k ∧ r.2.2.data.length + k = src.data.length) := by
  obtain ⟨hd, e, s1⟩ := r
  cases e with
  | none =>
    obtain ⟨h, hk, -⟩ := readExactly_ok x
    have := congrArg List.length h
    rw [List.length_append] at this
    exact ⟨this ▸ Nat.le_add_left .., fun _ => ⟨hk, by rw [this, hk, Nat.add_comm]⟩⟩
  | some err => exact ⟨Nat.le_trans (Nat.le_of_eq (congrArg List.length (readExactly_err x).2.2.2.1)) (Nat.zero_le _), nofun⟩

theorem reportIf_spec (w : World) (st : St) (err : Err) (report : Bool) :
    (if report = true then reportError w st err else (st, false)).2 = false ∧
    (if report = true then reportError w st err else (st, false)).1.src = st.src := by
  split
  · exact ⟨reportError_no_panic w st err, (reportError_hw w st err).src⟩
  · exact ⟨rfl, rfl⟩

theorem hardLimitRead_spec {w : World} {st : St} {limit read n : Nat} {report : Bool}
    {r : Bytes × Option Err × Nat × St × Bool} (x : hardLimitRead w st limit read n report = r) :
    r.2.2.2.2 = false ∧ r.1 ++ r.2.2.2.1.src.data = st.src.data ∧ r.2.2.2.1.src.ending = st.src.ending ∧
    r.2.2.1 = read + r.1.length ∧ (0 < n → r.2.1 = none → r.1 ≠ []) ∧
    (∀ err, r.2.1 = some err → limit < r.2.2.1 ∧ err = .rpc 8 ∨
      r.2.2.1 ≤ limit ∧ r.2.2.2.1.src.data = [] ∧ err = st.src.ending.err) := by
  subst x
  fun_cases hardLimitRead w st limit read n report
  case case1 h =>
    exact ⟨rfl, rfl, rfl, rfl, fun _ => nofun, fun err he => .inl ⟨h, (Option.some.inj he).symm⟩⟩
  case case2 hr n' b e src x1 s1 rd hc s2 p2 x2 =>
    -- the byte that is one too many has arrived: the size error, reported where there is a response writer
    obtain ⟨hcat, hend, -⟩ := Source.read_spec x1
    have hrep := reportIf_spec w s1 (.rpc 8) report
    rw [x2] at hrep
    have hs : s2.src = src := hrep.2
    have hover : limit < rd := by simpa using (Bool.and_eq_true_iff.mp hc).1
    exact ⟨hrep.1, by rw [hs]; exact hcat, by rw [hs]; exact hend, rfl, fun _ => nofun,
      fun err he => .inl ⟨hover, (Option.some.inj he).symm⟩⟩
  case case3 hr n' b e src x1 s1 rd hc =>
    -- the ordinary path: what the body's `Read` returns (bytes and error) is passed on
    obtain ⟨hcat, hend, -, hpos, herr⟩ := Source.read_spec x1
    refine ⟨rfl, hcat, hend, rfl, fun hn => hpos (by dsimp only [n']; split <;> omega), fun err he => ?_⟩
    dsimp only at he
    subst he
    obtain ⟨hnil, he, hb⟩ := herr err rfl
    by_cases hle : rd ≤ limit
    · exact .inr ⟨hle, hnil, he⟩
    · -- past the limit, but not the size error: the body's own error, then, and that comes without bytes
      exfalso
      rcases hb with hb | hb
      · dsimp only at hb; subst hb; exact hle (Nat.le_of_not_gt hr)
      · exact hc (by simp [he, hb, SrcEnd.err, Nat.lt_of_not_le hle])

theorem limited_read {w : World} {st : St} {k m : Nat} {b : Bytes} {e : Option Err} {st' : St} {cur' : RCur} {p : Bool}
    (x : erCurRead w st (.limited k) m = (b, e, st', cur', p)) (hm : 1 ≤ m) :
    ∃ src', st' = { st with src := src' } ∧ cur' = .limited (k - b.length) ∧ p = false ∧
      b ++ src'.data = st.src.data ∧ src'.ending = st.src.ending ∧ b.length ≤ k ∧
      (e = none → b ≠ []) ∧ (e = some .eof → b.length = k) ∧
      (∀ e', e = some e' → e' ≠ .eof → e' = .unexpectedEOF ∧ b = st.src.data ∧ b.length < k) := by
  rw [erCurRead] at x
  by_cases hk : k = 0
  · subst hk
    cases x
    exact ⟨st.src, rfl, rfl, rfl, rfl, rfl, Nat.le_refl _, nofun, fun _ => rfl, fun e' h hne => absurd (Option.some.inj h).symm hne⟩
  rw [if_neg (by simpa using hk)] at x
  rcases hx : st.src.read (min m k) with ⟨b0, e0, src'⟩
  obtain ⟨hcat, hend, hle, hpos, herr⟩ := Source.read_spec hx
  dsimp only at hcat hend hle hpos herr
  rw [hx] at x
  dsimp only at x
  cases x
  have hbk : b.length ≤ k := Nat.le_trans hle (Nat.min_le_right m k)
  refine ⟨src', rfl, rfl, rfl, hcat, hend, hbk, ?_⟩
  by_cases hc : (e0 == some .eof && decide (k - b.length > 0)) = true
  · -- the body has ended, cleanly, but inside the message
    rw [if_pos hc]
    obtain ⟨he0, hlt⟩ := Bool.and_eq_true_iff.mp hc
    obtain ⟨hnil, -, -⟩ := herr .eof (eq_of_beq he0)
    rw [hnil, List.append_nil] at hcat
    exact ⟨nofun, nofun, fun e' h _ => ⟨(Option.some.inj h).symm, hcat, Nat.lt_of_sub_pos (of_decide_eq_true hlt)⟩⟩
  · -- otherwise the body's `Read` is passed on as it is
    rw [if_neg hc]
    refine ⟨hpos (Nat.lt_min.mpr ⟨hm, Nat.pos_of_ne_zero hk⟩), fun h => ?_, fun e' h hne => ?_⟩
    · simp only [h, beq_self_eq_true, Bool.true_and, decide_eq_true_eq] at hc
      exact Nat.le_antisymm hbk (Nat.sub_eq_zero_iff_le.mp (Nat.eq_zero_of_not_pos hc))
    · -- any other error comes without bytes
      obtain ⟨hnil, he, hb⟩ := herr e' h
      rw [hnil, List.append_nil] at hcat
      rcases hb with hb | hb
      · rw [hb] at hcat ⊢
        rcases SrcEnd.err_cases st.src.ending with h | h
        · exact absurd (he.trans h) hne
        · exact ⟨he.trans h, hcat, Nat.pos_of_ne_zero hk⟩
      · exact absurd (he.trans (by rw [hb]; rfl)) hne

/-- What reading a whole body under a size limit yields: everything, unless it is too long. -/
def copySpecErr (limit : Nat) (total : Nat) (ending : SrcEnd) : Option Err :=
  if total > limit then some (.rpc 8) else if ending == .unexpected then some .unexpectedEOF else none

theorem copySpecErr_none {limit total : Nat} {ending : SrcEnd} (h : copySpecErr limit total ending = none) :
    total ≤ limit := by
  by_cases hgt : total > limit
  · rw [copySpecErr, if_pos hgt] at h
    cases h
  · exact Nat.le_of_not_gt hgt

theorem copySpecErr_within {limit total : Nat} (ending : SrcEnd) (h : total ≤ limit) :
    copySpecErr limit total ending = match ending.err with
      | .eof => none
      | err => some err := by
  rw [copySpecErr, if_neg (Nat.not_lt.mpr h)]
  cases ending <;> rfl

theorem copyAllLimited_spec {w : World} {report : Bool} {limit fuel : Nat} {st : St} {read : Nat} {acc : Bytes}
    {r : Bytes × Option Err × St × Bool} (x : copyAllLimited w report limit fuel st read acc = r)
    (hf : st.src.data.length < fuel) :
    r.2.2.2 = false ∧ r.1 ++ r.2.2.1.src.data = acc ++ st.src.data ∧
    r.2.1 = copySpecErr limit (read + st.src.data.length) st.src.ending ∧
    (read + st.src.data.length ≤ limit → r.2.2.1.src.data = []) := by
  subst x
  fun_induction copyAllLimited w report limit fuel st read acc
  case case1 => exact absurd hf (Nat.not_lt_zero _)
  case case2 x => cases (hardLimitRead_spec x).1
  case case3 fuel st read acc b read1 s1 p hp x ih =>
    -- a `Read` without error took something from the body
    obtain ⟨-, hcat, hend, hrd, hpos, -⟩ := hardLimitRead_spec x
    dsimp only at hcat hend hrd hpos
    subst hrd
    have hb := List.length_pos_iff.mpr (hpos (Nat.succ_pos _) rfl)
    have hlen : st.src.data.length = b.length + s1.src.data.length := by rw [← hcat, List.length_append]
    have hlt : s1.src.data.length < st.src.data.length := by rw [hlen]; exact Nat.lt_add_of_pos_left hb
    rw [Nat.add_assoc, ← hlen, hend, List.append_assoc, hcat] at ih
    exact ih (Nat.lt_of_lt_of_le hlt (Nat.le_of_lt_succ hf))
  case case4 fuel st read acc b read1 s1 p hp x =>
    -- the end of the body, cleanly
    obtain ⟨-, hcat, -, hrd, -, herr⟩ := hardLimitRead_spec x
    obtain ⟨-, h⟩ | ⟨hle, hnil, he⟩ := herr _ rfl
    · cases h
    dsimp only at hcat hrd hle hnil
    rw [hnil, List.append_nil] at hcat
    subst hcat hrd
    exact ⟨rfl, by simp only [hnil, List.append_nil], by rw [copySpecErr_within _ hle, ← he], fun _ => hnil⟩
  case case5 fuel st read acc b read1 s1 p hp err hne x =>
    obtain ⟨-, hcat, -, hrd, -, herr⟩ := hardLimitRead_spec x
    dsimp only at hcat hrd herr
    subst hrd
    obtain ⟨hlt, rfl⟩ | ⟨hle, hnil, he⟩ := herr _ rfl
    · -- too long
      have hover : limit < read + st.src.data.length := by
        rw [← hcat, List.length_append, ← Nat.add_assoc]; exact Nat.lt_add_right _ hlt
      exact ⟨rfl, by simp only [List.append_assoc, hcat], by rw [copySpecErr, if_pos hover],
        fun h => absurd h (Nat.not_le_of_gt hover)⟩
    · -- cut
      rw [hnil, List.append_nil] at hcat
      subst hcat
      refine ⟨rfl, by simp only [hnil, List.append_nil], ?_, fun _ => hnil⟩
      rw [copySpecErr_within _ hle, ← he]
      split
      · exact absurd rfl hne
      · rfl

end Vanguard
