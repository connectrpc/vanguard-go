/-! Generic facts about lists, and two instance shortcuts.

  The search for `LawfulBEq UInt8` - needed by every tactic step that turns `a == b` on bytes or byte strings into
  `a = b` - first walks the order-based routes of `Std` (`LawfulOrderBEq`, `LawfulBEqOrd`, …), each failing after an
  expensive unification, before it reaches `instLawfulBEq`; the answer is not kept between tactic steps (about 120k
  heartbeats per step).  Declared here, the direct route is the first one tried. -/

instance : LawfulBEq UInt8 := inferInstance
instance : ReflBEq UInt8 := inferInstance

theorem List.eq_of_nodup_map {α β} {f : α → β} {l : List α} (h : (l.map f).Nodup) {a b : α}
    (ha : a ∈ l) (hb : b ∈ l) (e : f a = f b) : a = b := by
  induction l with
  | nil => cases ha
  | cons x rest ih =>
    simp only [List.map_cons, List.nodup_cons, List.mem_map, not_exists, not_and] at h
    rcases List.mem_cons.mp ha with rfl | ha' <;> rcases List.mem_cons.mp hb with rfl | hb'
    · rfl
    · exact absurd e.symm (h.1 b hb')
    · exact absurd e (h.1 a ha')
    · exact ih h.2 ha' hb'

theorem List.find?_perm_unique {α} {p : α → Bool} {l₁ l₂ : List α} (hp : l₁.Perm l₂)
    (hu : ∀ a ∈ l₁, ∀ b ∈ l₁, p a = true → p b = true → a = b) : l₁.find? p = l₂.find? p := by
  cases h2 : l₂.find? p with
  | none => exact List.find?_eq_none.mpr fun x hx => List.find?_eq_none.mp h2 x (hp.mem_iff.mp hx)
  | some b =>
    cases h1 : l₁.find? p with
    | none => exact absurd (List.find?_some h2) (List.find?_eq_none.mp h1 b (hp.mem_iff.mpr (List.mem_of_find?_eq_some h2)))
    | some a =>
      rw [hu a (List.mem_of_find?_eq_some h1) b (hp.mem_iff.mpr (List.mem_of_find?_eq_some h2))
        (List.find?_some h1) (List.find?_some h2)]

/-- A function that is given by a table of rows and a default - a `switch` of the source as the extractor writes it
    down: `f` has each row's value at the row's key and the default wherever `f` is asked off the keys. -/
theorem List.switch_table {α β κ : Type} [BEq κ] [LawfulBEq κ] (tbl : List (α × β)) (key : α → κ) (d : β) (f : κ → β)
    (rows : ∀ p ∈ tbl, f (key p.1) = p.2) (k : κ) (off : (∀ p ∈ tbl, key p.1 ≠ k) → f k = d) :
    f k = ((tbl.find? fun p => key p.1 == k).map (·.2)).getD d := by
  cases h : tbl.find? fun p => key p.1 == k with
  | some p =>
    have hk : key p.1 = k := by simpa using List.find?_some h
    rw [← hk, rows p (List.mem_of_find?_eq_some h)]; rfl
  | none => exact off fun p hp => by simpa using List.find?_eq_none.mp h p hp

theorem list_len5 {α : Type} (l : List α) (h : l.length = 5) : ∃ f a b c d, l = [f, a, b, c, d] := by
  match l, h with
  | [f, a, b, c, d], _ => exact ⟨f, a, b, c, d, rfl⟩
