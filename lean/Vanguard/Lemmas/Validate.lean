import Vanguard.Model.Validate
import Vanguard.Lemmas.List
/-! What a successful `validate` has established: every later statement about a validated operation
    reads the one field of `Validated` it needs. -/
namespace Vanguard

theorem Except.of_guard_eq_ok {ε α : Type} {b : Bool} {e : ε} {k : Except ε α} {x : α}
    (h : (if b then .error e else k) = .ok x) : b = false ∧ k = .ok x := by
  cases b
  · exact ⟨rfl, h⟩
  · cases h

theorem negotiate_some {m : MethodConf} {c : ClientForm} {codec comp : Bytes} {n : Negotiated}
    (h : negotiate m c codec comp = some n) :
    pickProto m c ≠ .rest ∧
    n = { sform := (pickProto m c).serverForm m.streamType,
          scodec := if m.codecs.contains codec then codec else m.codecs.headD [],
          cReqComp := if comp.isEmpty then none else some comp,
          sReqComp := if !comp.isEmpty && m.compressors.contains comp then some comp else none } := by
  unfold negotiate at h
  by_cases hr : pickProto m c = .rest
  · rw [if_pos (beq_iff_eq.2 hr)] at h; cases h
  · rw [if_neg (mt beq_iff_eq.1 hr)] at h
    exact ⟨hr, (Option.some.inj h).symm⟩

/-- The checks `validate` made of request `r` before it answered with operation `o`, and where each field
    of `o` comes from, in the order of the code. -/
structure Validated (w : World) (t : TConf) (r : Req) (o : Op) : Prop where
  classify : classifyRequest r = some o.cform
  resolve : resolveMethod t o.cform r = .ok o.conf
  accepts : o.cform.acceptsStreamType o.conf.streamType = true
  bidi : o.conf.streamType = .bidi → 2 ≤ r.protoMajor
  grpc : o.cform.proto = .grpc → r.protoMajor = 2
  extract : ∃ h, o.cform.extractRequestHeaders r.query r.headers = some (o.reqMeta, h) ∧
    (h.get (s "Content-Encoding") = [] ∨ h.get (s "Content-Encoding") = identityName) ∧
    o.headers = ((h.del (s "Content-Encoding")).del (s "Accept-Encoding")).del (s "Content-Length")
  compression : o.reqMeta.compression = [] ∨ o.reqMeta.compression = identityName ∨
    w.knownCompression o.reqMeta.compression = true
  codec : w.knownCodec o.reqMeta.codec = true
  ccodec : o.ccodec = o.reqMeta.codec
  negotiate : negotiate o.conf o.cform o.reqMeta.codec
      (if o.reqMeta.compression == identityName then [] else o.reqMeta.compression) =
    some ⟨o.sform, o.scodec, o.cReqComp, o.sReqComp⟩
  contentLen : o.contentLen = r.contentLength
  query : o.query = r.query
  reqMethod : o.reqMethod = r.method

theorem validate_ok {w : World} {t : TConf} {r : Req} {o : Op} (h : validate w t r = .ok o) :
    Validated w t r o := by
  -- `validate` is a long term: each step below only looks at its head (unification with
  -- `of_guard_eq_ok`, one `rw` of a discriminant); `split` or `simp` at `h` would walk through all of it.
  unfold validate at h
  cases hc : classifyRequest r with
  | none => rw [hc] at h; cases h
  | some c =>
    rw [hc] at h
    -- the guard dropped here is `c ≠ .rest`: the e2e model answers 404 to every REST client, so `Validated` has no
    -- REST instance, and what is proved through it says nothing about a REST client
    obtain ⟨-, h⟩ := Except.of_guard_eq_ok h
    cases hm : resolveMethod t c r with
    | error e => rw [hm] at h; cases h
    | ok m =>
      rw [hm] at h
      obtain ⟨hacc, h⟩ := Except.of_guard_eq_ok h
      obtain ⟨hbidi, h⟩ := Except.of_guard_eq_ok h
      obtain ⟨hgrpc, h⟩ := Except.of_guard_eq_ok h
      cases hx : c.extractRequestHeaders r.query r.headers with
      | none => rw [hx] at h; cases h
      | some p =>
        obtain ⟨rm, hd⟩ := p
        rw [hx] at h
        obtain ⟨henc, h⟩ := Except.of_guard_eq_ok h
        obtain ⟨hcomp, h⟩ := Except.of_guard_eq_ok h
        obtain ⟨hcodec, h⟩ := Except.of_guard_eq_ok h
        split at h
        · cases h
        · rename_i n hn
          cases h
          exact {
            classify := hc, resolve := hm, accepts := by simpa using hacc,
            bidi := by simpa using hbidi, grpc := by simpa using hgrpc,
            extract := ⟨hd, hx, by simpa [Decidable.or_iff_not_imp_left] using henc, rfl⟩,
            compression := by
              by_cases hi : rm.compression = identityName
              · exact .inr (.inl hi)
              · simpa [hi, Decidable.or_iff_not_imp_left] using hcomp
            codec := by simpa using hcodec, ccodec := rfl, negotiate := hn,
            contentLen := rfl, query := rfl, reqMethod := rfl }

namespace Validated
variable {w : World} {t : TConf} {r : Req} {o : Op}

theorem cform_eq (v : Validated w t r o) {c : ClientForm} (hc : classifyRequest r = some c) : o.cform = c :=
  Option.some.inj (v.classify.symm.trans hc)

theorem conf_eq (v : Validated w t r o) {c : ClientForm} {m : MethodConf} (hc : classifyRequest r = some c)
    (hm : resolveMethod t c r = .ok m) : o.conf = m := by
  have := v.resolve
  rw [v.cform_eq hc, hm] at this
  exact (Except.ok.inj this).symm

end Validated
end Vanguard
