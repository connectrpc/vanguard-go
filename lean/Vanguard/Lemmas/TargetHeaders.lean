import Vanguard.Lemmas.Headers
import Vanguard.Model.Run
/-! The control headers of the backend request agree with the negotiated target (C02, C12): what
    `addRequestHeaders` does is read off a table of assignments, one per server form. -/
namespace Vanguard

def ServerForm.contentType (p : ServerForm) (codec : Bytes) : Option Bytes :=
  match p with
  | .grpc => some (s "application/grpc+" ++ codec)
  | .grpcWeb => some (s "application/grpc-web+" ++ codec)
  | .connectStream => some (s "application/connect+" ++ codec)
  | .connectUnary => some (s "application/" ++ codec)
  | .rest => none

def ServerForm.encodingHeader (p : ServerForm) : Option Bytes :=
  match p with
  | .grpc | .grpcWeb => some (s "Grpc-Encoding")
  | .connectStream => some (s "Connect-Content-Encoding")
  | .connectUnary => some (s "Content-Encoding")
  | .rest => none

/-- `addProtocolRequestHeaders` of each server form as a table: the headers it assigns, in its order, each with
    the value it gets (`none` = the `Set` stands under a condition that does not hold). -/
def ServerForm.requestControls (p : ServerForm) (m : ReqMeta) : List (Bytes × Option Bytes) :=
  let comp := if !m.compression.isEmpty then some m.compression else none
  let acc := if !m.acceptCompression.isEmpty then some (joinBytes commaSpace m.acceptCompression) else none
  match p with
  | .grpc =>
    [(s "Content-Type", some (s "application/grpc+" ++ m.codec)), (s "Grpc-Encoding", comp),
     (s "Grpc-Accept-Encoding", acc), (s "Grpc-Timeout", m.timeout.map grpcEncodeTimeout),
     (s "Te", some (s "trailers"))]
  | .grpcWeb =>
    [(s "Content-Type", some (s "application/grpc-web+" ++ m.codec)), (s "Grpc-Encoding", comp),
     (s "Grpc-Accept-Encoding", acc), (s "Grpc-Timeout", m.timeout.map grpcEncodeTimeout)]
  | .connectStream =>
    [(s "Content-Type", some (s "application/connect+" ++ m.codec)), (s "Connect-Content-Encoding", comp),
     (s "Connect-Accept-Encoding", acc), (s "Connect-Timeout-Ms", m.timeout.map connectEncodeTimeout)]
  | .connectUnary =>
    [(s "Content-Type", some (s "application/" ++ m.codec)), (s "Content-Encoding", comp),
     (s "Accept-Encoding", acc), (s "Connect-Protocol-Version", some (s "1")),
     (s "Connect-Timeout-Ms", m.timeout.bind fun d =>
        if (connectEncodeTimeout d).isEmpty then none else some (connectEncodeTimeout d))]
  | .rest => []

theorem addRequestHeaders_eq (p : ServerForm) (m : ReqMeta) (h : Hdr) :
    p.addRequestHeaders m h = h.assign (p.requestControls m) := by
  obtain ⟨timeout, codec, comp, acc⟩ := m
  unfold ServerForm.addRequestHeaders
  rw [setIf_eq_setOpt]
  -- with the form and the timeout, both sides are the same chain of `Set`s
  cases p <;> cases timeout
  case connectUnary.some d =>
    -- the one `Set` under a condition on the value set
    simp only [ServerForm.requestControls, Option.bind_some]
    cases (connectEncodeTimeout d).isEmpty <;> rfl
  all_goals rfl

/-- No server form assigns a header twice (the names are evaluated here, once). -/
theorem requestControls_nodup (p : ServerForm) (m : ReqMeta) :
    ((p.requestControls m).map fun e => canonKey e.1).Nodup := by
  cases p <;> simp only [ServerForm.requestControls, List.map] <;> decide +kernel

theorem values_addRequestHeaders (p : ServerForm) (m : ReqMeta) (h : Hdr) (k : Bytes) (ov : Option Bytes)
    (hmem : (k, ov) ∈ p.requestControls m) : (p.addRequestHeaders m h).values k = (h.setOpt k ov).values k := by
  rw [addRequestHeaders_eq]
  exact Hdr.values_assign_mem _ h k ov (requestControls_nodup p m) hmem

/-- **What the backend request has under a key of the target protocol's table** is that row's assignment, over the
    headers validation handed on: the content type, encoding header and markers of C02 and the timeout header of C12
    are rows of `requestControls`. -/
theorem backend_header (w : World) (sc : Scenario) (o : Op) (pl : HandlePlan) (st : St) (first : Option (Bytes × Bool))
    (k : Bytes) (ov : Option Bytes)
    (hmem : (k, ov) ∈ o.sform.requestControls
      { o.reqMeta with codec := o.scodec, compression := o.sReqComp.getD [],
                       acceptCompression := intersection w.knownCompression o.reqMeta.acceptCompression }) :
    (transcodeRun w sc o pl st first).backend.headers.values k = (o.headers.setOpt k ov).values k :=
  -- by definition the backend's headers are `o.sform.addRequestHeaders` of the metadata spelt out in `hmem`, over `o.headers`
  values_addRequestHeaders _ _ _ k ov hmem

theorem requestControls_subset (p : ServerForm) (m : ReqMeta) : ∀ e ∈ p.requestControls m, e.1 ∈ controlNames := by
  cases p <;> simp only [ServerForm.requestControls, controlNames, List.mem_cons, List.not_mem_nil, or_false,
    forall_eq_or_imp, forall_eq, false_imp_iff, implies_true, true_or, or_true, and_self]

end Vanguard
