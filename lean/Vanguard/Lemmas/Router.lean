import Vanguard.Spec.Routing
import Vanguard.Lemmas.List
/-!
  The trie walk `findTarget` is a first-match search over the templates that match the request path
  (`findTarget_eq`); soundness, completeness, literal precedence and order independence of the walk
  are read off that search.
-/
namespace Vanguard
open Vanguard.Spec

theorem mem_children {seg : Bytes} {routes : List Route} {rc : Route} :
    rc ∈ children seg routes ↔ ∃ r ∈ routes, r.segs = seg :: rc.segs ∧ rc = { r with segs := rc.segs } := by
  unfold children
  rw [List.mem_filterMap]
  refine exists_congr fun r => and_congr_right fun _ => ?_
  cases hs : r.segs with
  | nil => simp
  | cons s t =>
    by_cases h : s = seg
    · subst h
      simp only [beq_self_eq_true, if_true, Option.some.injEq, List.cons.injEq, true_and]
      constructor
      · rintro rfl; exact ⟨rfl, rfl⟩
      · rintro ⟨rfl, h⟩; exact h.symm ▸ rfl
    · simp [h]

/-- The bindings whose (remaining) template is `pat`, as they stand at the trie node reached by
    following the edges `pat`. -/
def litRoutes (pat : List Bytes) (routes : List Route) : List Route :=
  routes.filterMap (fun r => if r.segs == pat then some { r with segs := [] } else none)

theorem mem_litRoutes {pat : List Bytes} {routes : List Route} {x : Route} :
    x ∈ litRoutes pat routes ↔ ∃ r ∈ routes, r.segs = pat ∧ x = { r with segs := [] } := by
  simp only [litRoutes, List.mem_filterMap, Option.ite_none_right_eq_some, beq_iff_eq, Option.some.injEq]
  exact exists_congr fun r => and_congr_right fun _ => and_congr_right fun _ => eq_comm

theorem litRoutes_children (cur : Bytes) (rest : List Bytes) (routes : List Route) :
    litRoutes rest (children cur routes) = litRoutes (cur :: rest) routes := by
  unfold litRoutes children
  rw [List.filterMap_filterMap]
  congr 1
  funext r
  cases hs : r.segs with
  | nil => rfl
  | cons s t =>
    simp only [List.cons_beq_cons]
    by_cases hb : (s == cur) = true
    · simp only [hb, if_true, Bool.true_and]; rfl
    · simp only [hb, Bool.false_eq_true, if_false, Bool.false_and]; rfl

theorem litRoutes_nil (routes : List Route) : litRoutes [] routes = routes.filter (·.segs.isEmpty) := by
  rw [← List.filterMap_eq_filter, litRoutes]
  congr 1
  funext ⟨segs, _, _, _, _⟩
  cases segs <;> rfl

theorem getTarget_lit_nil (routes : List Route) (verb method : Bytes) :
    getTarget (litRoutes [] routes) verb method = getTarget routes verb method := by
  have : (litRoutes [] routes).filter (fun r => r.segs.isEmpty && r.verb == verb)
      = routes.filter (fun r => r.segs.isEmpty && r.verb == verb) := by
    rw [litRoutes_nil, List.filter_filter]
    congr 1
    funext r
    cases r.segs.isEmpty <;> simp
  unfold getTarget
  simp only [this]

theorem getTarget_node (pat : List Bytes) (routes : List Route) (verb method : Bytes) :
    match getTarget (litRoutes pat routes) verb method with
    | .none => ∀ r ∈ routes, r.segs = pat → r.verb ≠ verb
    | .target x => ∃ r ∈ routes, r.segs = pat ∧ r.verb = verb ∧ (r.method = method ∨ r.method = wildcardMethod) ∧
        x = { r with segs := [] }
    | .methods ms => ms ≠ [] ∧ method ∉ ms ∧ wildcardMethod ∉ ms ∧
        ∀ m, m ∈ ms ↔ ∃ r ∈ routes, r.segs = pat ∧ r.verb = verb ∧ r.method = m := by
  unfold getTarget
  dsimp only
  generalize hh : (litRoutes pat routes).filter _ = here
  have hmem : ∀ x, x ∈ here ↔ ∃ r ∈ routes, r.segs = pat ∧ r.verb = verb ∧ x = { r with segs := [] } := by
    intro x
    rw [← hh, List.mem_filter, mem_litRoutes, Bool.and_eq_true, List.isEmpty_iff]
    constructor
    · rintro ⟨⟨r, hr, hs, rfl⟩, _, hv⟩; exact ⟨r, hr, hs, beq_iff_eq.mp hv, rfl⟩
    · rintro ⟨r, hr, hs, hv, rfl⟩; exact ⟨⟨r, hr, hs, rfl⟩, rfl, beq_iff_eq.mpr hv⟩
  cases here with
  | nil => exact fun r hr hs hv => List.not_mem_nil ((hmem _).mpr ⟨r, hr, hs, hv, rfl⟩)
  | cons a t =>
    rw [List.isEmpty_cons, if_neg Bool.false_ne_true]
    cases h1 : List.find? (·.method == method) (a :: t) with
    | some x =>
      obtain ⟨r, hr, hs, hv, rfl⟩ := (hmem x).mp (List.mem_of_find?_eq_some h1)
      have hm := List.find?_some h1
      exact ⟨r, hr, hs, hv, .inl (beq_iff_eq.mp hm), rfl⟩
    | none =>
      cases h2 : List.find? (·.method == wildcardMethod) (a :: t) with
      | some x =>
        obtain ⟨r, hr, hs, hv, rfl⟩ := (hmem x).mp (List.mem_of_find?_eq_some h2)
        have hm := List.find?_some h2
        exact ⟨r, hr, hs, hv, .inr (beq_iff_eq.mp hm), rfl⟩
      | none =>
        rw [List.find?_eq_none] at h1 h2
        refine ⟨List.cons_ne_nil _ _, ?_, ?_, fun m => ?_⟩
        · intro hm; obtain ⟨r, hr, he⟩ := List.mem_map.mp hm; exact h1 r hr (beq_iff_eq.mpr he)
        · intro hm; obtain ⟨r, hr, he⟩ := List.mem_map.mp hm; exact h2 r hr (beq_iff_eq.mpr he)
        · rw [List.mem_map]
          constructor
          · rintro ⟨x, hx, hm⟩; obtain ⟨r, hr, hs, hv, rfl⟩ := (hmem x).mp hx; exact ⟨r, hr, hs, hv, hm⟩
          · rintro ⟨r, hr, hs, hv, hm⟩; exact ⟨_, (hmem _).mpr ⟨r, hr, hs, hv, rfl⟩, hm⟩

def Found.or : Found → Found → Found
  | .none, b => b
  | a, _ => a

abbrev firstFound (fs : List Found) : Found := fs.foldr Found.or .none

theorem firstFound_append (a b : List Found) : firstFound (a ++ b) = (firstFound a).or (firstFound b) := by
  induction a with
  | nil => rfl
  | cons x xs ih => cases x <;> simp [Found.or, ih]

theorem firstFound_eq_none {fs : List Found} : firstFound fs = .none ↔ ∀ f ∈ fs, f = .none := by
  induction fs with
  | nil => simp
  | cons x xs ih => cases x <;> simp [Found.or, ih]

theorem firstFound_mem {fs : List Found} (h : firstFound fs ≠ .none) : firstFound fs ∈ fs := by
  induction fs with
  | nil => exact absurd rfl h
  | cons x xs ih => cases x <;> simp_all [Found.or]

/-- The templates that match `path`, in the order in which the walk reaches their nodes: literal
    child before `*` before `**`, at every level. -/
def nodes : List Bytes → List (List Bytes)
  | [] => [[]]
  | cur :: rest => (nodes rest).map (cur :: ·) ++ (nodes rest).map (starSeg :: ·) ++ [[dstarSeg]]

theorem mem_nodes {pat path : List Bytes} : pat ∈ nodes path ↔ segMatch pat path = true := by
  induction path generalizing pat with
  | nil => cases pat <;> simp [nodes, segMatch]
  | cons p ps ih =>
    cases pat with
    | nil => simp [nodes, segMatch]
    | cons t ts =>
      -- by `rw`: as a simp lemma `segMatch` also tries its catch-all equation at every occurrence, which is slow to fail
      rw [segMatch]
      simp only [nodes, List.mem_append, List.mem_map, List.mem_singleton, List.cons.injEq, exists_eq_right_right, ih,
        Bool.or_eq_true, Bool.and_eq_true, beq_iff_eq, List.isEmpty_iff, eq_comm (a := t)]
      simp only [and_comm, or_assoc]

theorem nodes_cons (path : List Bytes) : ∃ t, nodes path = path :: t := by
  induction path with
  | nil => exact ⟨[], rfl⟩
  | cons p ps ih => obtain ⟨t, ht⟩ := ih; exact ⟨_, by simp [nodes, ht]; rfl⟩

theorem findTarget_eq (verb method : Bytes) (path : List Bytes) (routes : List Route) :
    findTarget routes path verb method =
      firstFound ((nodes path).map fun pat => getTarget (litRoutes pat routes) verb method) := by
  induction path generalizing routes with
  | nil => simp [findTarget, nodes, getTarget_lit_nil]; cases getTarget routes verb method <;> rfl
  | cons cur rest ih =>
    -- right-hand side: `← litRoutes_children` moves each pattern's first segment into `children`, `← ih` then folds the
    -- two mapped lists back into the recursive calls (and `[dstarSeg]` becomes `getTarget (children dstarSeg routes)`)
    simp only [findTarget, nodes, List.map_append, List.map_map, firstFound_append, Function.comp_def,
      ← litRoutes_children, ← ih, List.map_cons, List.map_nil, List.foldr_cons, List.foldr_nil, getTarget_lit_nil]
    -- the next branch is looked at only when this one is `.none`
    cases findTarget (children cur routes) rest verb method with
    | none =>
      cases findTarget (children starSeg routes) rest verb method with
      | none => cases getTarget (children dstarSeg routes) verb method <;> rfl
      | _ => rfl
    | _ => rfl

theorem segMatch_refl (p : List Bytes) : segMatch p p = true := by
  induction p with
  | nil => rfl
  | cons a t ih => simp [segMatch, ih]

theorem findTarget_eq_none {verb method : Bytes} {path : List Bytes} {routes : List Route} :
    findTarget routes path verb method = .none ↔ ∀ r ∈ routes, routeMatches path verb r = false := by
  simp only [findTarget_eq, firstFound_eq_none, List.mem_map, mem_nodes, forall_exists_index, and_imp,
    forall_apply_eq_imp_iff₂, routeMatches, Bool.and_eq_false_imp, beq_eq_false_iff_ne]
  constructor
  · intro h r hr hm
    have hc := getTarget_node r.segs routes verb method
    rw [h _ hm] at hc
    exact hc r hr rfl
  · intro h pat hm
    have hc := getTarget_node pat routes verb method
    cases hg : getTarget (litRoutes pat routes) verb method with
    | none => rfl
    | target x =>
      rw [hg] at hc
      obtain ⟨r, hr, rfl, hv, _⟩ := hc
      exact absurd hv (h r hr hm)
    | methods ms =>
      rw [hg] at hc
      obtain ⟨m, hmem⟩ := List.exists_mem_of_ne_nil _ hc.1
      obtain ⟨r, hr, rfl, hv, _⟩ := (hc.2.2.2 m).mp hmem
      exact absurd hv (h r hr hm)

/-- A literal template's node is tried first, and it answers. -/
theorem findTarget_literal (verb method : Bytes) (path : List Bytes) (routes : List Route)
    (h : ∃ r ∈ routes, r.segs = path ∧ r.verb = verb) :
    findTarget routes path verb method = getTarget (litRoutes path routes) verb method := by
  obtain ⟨r, hr, hs, hv⟩ := h
  obtain ⟨t, ht⟩ := nodes_cons path
  have hc := getTarget_node path routes verb method
  rw [findTarget_eq, ht]
  cases hg : getTarget (litRoutes path routes) verb method with
  | none => rw [hg] at hc; exact absurd hv (hc r hr hs)
  | target _ | methods _ => simp [hg, Found.or]

theorem findTarget_node {verb method : Bytes} {path : List Bytes} {routes : List Route} {f : Found}
    (h : findTarget routes path verb method = f) (hf : f ≠ .none) :
    ∃ pat, segMatch pat path = true ∧ f = getTarget (litRoutes pat routes) verb method ∧
      ((∃ r ∈ routes, r.segs = path ∧ r.verb = verb) → pat = path) := by
  subst h
  by_cases hl : ∃ r ∈ routes, r.segs = path ∧ r.verb = verb
  · exact ⟨path, segMatch_refl path, findTarget_literal verb method path routes hl, fun _ => rfl⟩
  · rw [findTarget_eq] at hf ⊢
    obtain ⟨pat, hp, he⟩ := List.mem_map.mp (firstFound_mem hf)
    exact ⟨pat, mem_nodes.mp hp, he.symm, fun h => absurd h hl⟩

/-- No two bindings of the table share (segments, verb, method) — what `insert` enforces. -/
def KeyInj (routes : List Route) : Prop := ∀ a ∈ routes, ∀ b ∈ routes, key a = key b → a = b

/-- Equality of walk results up to the order of the `Allow` methods. -/
def FoundEq : Found → Found → Prop
  | .target a, .target b => a = b
  | .methods a, .methods b => a.Perm b
  | .none, .none => True
  | _, _ => False

theorem keyInj_litRoutes {pat : List Bytes} {routes : List Route} (h : KeyInj routes) : KeyInj (litRoutes pat routes) := by
  intro a ha b hb hk
  obtain ⟨ra, hra, rfl, rfl⟩ := mem_litRoutes.mp ha
  obtain ⟨rb, hrb, hsb, rfl⟩ := mem_litRoutes.mp hb
  simp only [key, Prod.mk.injEq, true_and] at hk
  rw [h ra hra rb hrb (by simp [key, hsb, hk])]

theorem keyInj_perm {l₁ l₂ : List Route} (hp : l₁.Perm l₂) (h : KeyInj l₁) : KeyInj l₂ :=
  fun a ha b hb hk => h a (hp.mem_iff.mpr ha) b (hp.mem_iff.mpr hb) hk

theorem getTarget_perm {l₁ l₂ : List Route} (hp : l₁.Perm l₂) (hk : KeyInj l₁) (verb method : Bytes) :
    FoundEq (getTarget l₁ verb method) (getTarget l₂ verb method) := by
  unfold getTarget
  dsimp only
  have hh := hp.filter fun r => r.segs.isEmpty && r.verb == verb
  -- among the routes that end here with this verb the method is a key, so `find?` does not depend on the order
  have huniq : ∀ m : Bytes, ∀ a ∈ (l₁.filter fun r => r.segs.isEmpty && r.verb == verb),
      ∀ b ∈ (l₁.filter fun r => r.segs.isEmpty && r.verb == verb),
      (a.method == m) = true → (b.method == m) = true → a = b := by
    intro m a ha b hb hma hmb
    rw [List.mem_filter, Bool.and_eq_true, List.isEmpty_iff] at ha hb
    have hv : a.verb = b.verb := (beq_iff_eq.mp ha.2.2).trans (beq_iff_eq.mp hb.2.2).symm
    have hm : a.method = b.method := (beq_iff_eq.mp hma).trans (beq_iff_eq.mp hmb).symm
    exact hk a ha.1 b hb.1 (Prod.ext (ha.2.1.trans hb.2.1.symm) (Prod.ext hv hm))
  rw [← hh.isEmpty_eq, ← List.find?_perm_unique hh (huniq method), ← List.find?_perm_unique hh (huniq wildcardMethod)]
  -- both sides now branch on the same three tests
  generalize l₁.filter _ = here at hh ⊢
  cases here.isEmpty with
  | true => trivial
  | false =>
    cases here.find? (·.method == method) with
    | some x => exact rfl
    | none =>
      cases here.find? (·.method == wildcardMethod) with
      | some x => exact rfl
      | none => exact hh.map _

theorem FoundEq.or {a a' b b' : Found} (h1 : FoundEq a a') (h2 : FoundEq b b') : FoundEq (a.or b) (a'.or b') := by
  cases a <;> cases a' <;> first | exact h1.elim | exact h1 | exact h2

theorem addRoutes_induction {P : List Route → Prop} {rules : List (Bytes × Bytes)} {i : Nat} {acc routes : List Route}
    (h : addRoutes i acc rules = .ok routes) (hacc : P acc)
    (step : ∀ acc i method text t, P acc → parseTemplate text = some t →
      (∀ r ∈ acc, ¬ (r.segs = t.segs ∧ r.verb = t.verb ∧ r.method = method)) →
      P (acc ++ [{ segs := t.segs, verb := t.verb, method := method, idx := i, tmpl := t }])) : P routes := by
  induction rules generalizing i acc with
  | nil => cases h; exact hacc
  | cons rule rest ih =>
    obtain ⟨method, text⟩ := rule
    unfold addRoutes at h
    cases ht : parseTemplate text with
    | none => rw [ht] at h; cases h
    | some t =>
      rw [ht] at h
      cases hany : acc.any fun r => r.segs == t.segs && r.verb == t.verb && r.method == method with
      | true => simp only [hany, if_true] at h; cases h
      | false =>
        simp only [hany, Bool.false_eq_true, if_false] at h
        refine ih h (step acc i method text t hacc ht fun r hr ⟨h1, h2, h3⟩ => ?_)
        exact List.any_eq_false.mp hany r hr (by simp only [h1, h2, h3, beq_self_eq_true, Bool.and_self])

end Vanguard
