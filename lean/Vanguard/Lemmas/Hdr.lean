import Vanguard.Model.Proto
import Vanguard.Lemmas.List
/-! Header maps as functions `k ↦ values k`: what deleting, setting, appending and assigning a table of keys do to
    the key itself and to every other key.  Nothing here mentions a particular header name. -/
namespace Vanguard
namespace Hdr

theorem values_filter_keep (h : Hdr) (p : Bytes × List Bytes → Bool) (k : Bytes)
    (hp : ∀ e : Bytes × List Bytes, e.1 = canonKey k → p e = true) : Hdr.values (h.filter p) k = h.values k := by
  unfold Hdr.values
  -- looking up `k` after the filter is looking up "kept and under `k`", and what is under `k` is kept
  rw [List.find?_filter]
  congr 2
  funext e
  by_cases he : e.1 = canonKey k
  · simp [hp e he, he]
  · simp [he]

theorem values_append_ne (h : Hdr) (k : Bytes) (vs : List Bytes) (b : Bytes) (hne : k ≠ canonKey b) :
    Hdr.values (h ++ [(k, vs)]) b = h.values b := by
  unfold Hdr.values
  rw [List.find?_append]
  have : ([(k, vs)] : Hdr).find? (fun e => e.1 == canonKey b) = none := by
    simp [hne]
  rw [this]
  cases List.find? (fun e => e.1 == canonKey b) h <;> rfl

theorem values_del_ne (h : Hdr) (a b : Bytes) (hne : canonKey a ≠ canonKey b) :
    (Hdr.del h a).values b = h.values b :=
  values_filter_keep h _ b fun e he => by simpa [he] using Ne.symm hne

theorem find_del_same (h : Hdr) (k : Bytes) : (Hdr.del h k).find? (fun e => e.1 == canonKey k) = none := by
  unfold Hdr.del
  rw [List.find?_eq_none]
  intro e he
  have := (List.mem_filter.mp he).2
  simpa using this

theorem values_setRaw_ne (h : Hdr) (a : Bytes) (vs : List Bytes) (b : Bytes) (hne : a ≠ canonKey b) :
    (Hdr.setRaw h a vs).values b = h.values b := by
  unfold Hdr.setRaw
  rw [Hdr.values_append_ne _ _ _ _ hne]
  exact Hdr.values_filter_keep h _ b (fun e he => by simp [he]; exact fun h => hne h.symm)

theorem values_setRaw_same (h : Hdr) (a : Bytes) (vs : List Bytes) (b : Bytes) (ha : a = canonKey b) :
    (Hdr.setRaw h a vs).values b = vs := by
  subst ha
  unfold Hdr.setRaw Hdr.values
  rw [List.find?_append, show (h.filter _).find? _ = none from find_del_same h b]
  simp

theorem values_set_ne (h : Hdr) (a v b : Bytes) (hne : canonKey a ≠ canonKey b) :
    (Hdr.set h a v).values b = h.values b := values_setRaw_ne h _ [v] b hne

theorem values_set_same (h : Hdr) (k v : Bytes) : (Hdr.set h k v).values k = [v] := values_setRaw_same h _ [v] k rfl

theorem foldl_del_eq (ks : List Bytes) (h : Hdr) :
    ks.foldl Hdr.del h = h.filter fun e => ks.all fun a => e.1 != canonKey a := by
  induction ks generalizing h with
  | nil => exact (List.filter_eq_self.mpr fun _ _ => rfl).symm
  | cons a ks ih => rw [List.foldl_cons, ih, Hdr.del, List.filter_filter]; simp only [List.all_cons, Bool.and_comm]

theorem values_foldl_del_ne (ks : List Bytes) (h : Hdr) (k : Bytes) (hne : ∀ a ∈ ks, canonKey a ≠ canonKey k) :
    (ks.foldl Hdr.del h).values k = h.values k := by
  rw [foldl_del_eq]
  exact values_filter_keep h _ k fun e he => List.all_eq_true.mpr fun a ha => by simpa [he] using Ne.symm (hne a ha)

theorem has_foldl_del (ks : List Bytes) (h : Hdr) (k : Bytes) (hk : k ∈ ks) :
    (ks.foldl Hdr.del h).has k = false := by
  rw [foldl_del_eq, Hdr.has, List.any_eq_false]
  intro e he hek
  have := List.all_eq_true.mp (List.mem_filter.mp he).2 k hk
  simp [beq_iff_eq.mp hek] at this

theorem has_del_same (h : Hdr) (k : Bytes) : (Hdr.del h k).has k = false := has_foldl_del [k] h k List.mem_cons_self

/-- `Set(k, v)` under a condition: `none` = the condition did not hold. -/
def setOpt (h : Hdr) (k : Bytes) (ov : Option Bytes) : Hdr :=
  match ov with
  | some v => h.set k v
  | none => h

def assign (h : Hdr) (tbl : List (Bytes × Option Bytes)) : Hdr :=
  tbl.foldl (fun h e => h.setOpt e.1 e.2) h

theorem values_setOpt_some (h : Hdr) (k v : Bytes) : (h.setOpt k (some v)).values k = [v] := values_set_same h k v

theorem values_setOpt_ne (h : Hdr) (a : Bytes) (ov : Option Bytes) (b : Bytes) (hne : canonKey a ≠ canonKey b) :
    (h.setOpt a ov).values b = h.values b := by
  cases ov with
  | none => rfl
  | some v => exact values_set_ne h a v b hne

theorem values_assign_ne (tbl : List (Bytes × Option Bytes)) (h : Hdr) (k : Bytes)
    (hne : ∀ e ∈ tbl, canonKey e.1 ≠ canonKey k) : (h.assign tbl).values k = h.values k := by
  induction tbl generalizing h with
  | nil => rfl
  | cons e tbl ih =>
    rw [assign, List.foldl_cons, ← assign, ih _ fun e he => hne e (List.mem_cons_of_mem _ he),
      values_setOpt_ne _ _ _ _ (hne e List.mem_cons_self)]

theorem values_assign_mem (tbl : List (Bytes × Option Bytes)) (h : Hdr) (k : Bytes) (ov : Option Bytes)
    (hnd : (tbl.map fun e => canonKey e.1).Nodup) (hmem : (k, ov) ∈ tbl) :
    (h.assign tbl).values k = (h.setOpt k ov).values k := by
  induction tbl generalizing h with
  | nil => cases hmem
  | cons e tbl ih =>
    rw [List.map_cons, List.nodup_cons] at hnd
    rw [assign, List.foldl_cons, ← assign]
    rcases List.mem_cons.1 hmem with he | hmem
    · -- the entry itself: nothing after it touches `k`
      subst he
      exact values_assign_ne tbl _ k fun e he hk => hnd.1 (hk ▸ List.mem_map_of_mem he)
    · -- a later entry: this one has another key
      have hek : canonKey e.1 ≠ canonKey k := fun hk =>
        hnd.1 (hk ▸ List.mem_map_of_mem (f := fun e => canonKey e.1) hmem)
      rw [ih _ hnd.2 hmem]
      cases ov with
      | none => exact values_setOpt_ne _ _ _ _ hek
      | some v => exact (values_set_same ..).trans (values_set_same ..).symm

theorem values_map_append_ne (h : Hdr) (ka : Bytes) (v b : Bytes) (hne : ka ≠ canonKey b) :
    Hdr.values (h.map (fun e => if e.1 == ka then (e.1, e.2 ++ [v]) else e)) b = h.values b := by
  unfold Hdr.values
  induction h with
  | nil => rfl
  | cons e rest ih =>
    rw [List.map_cons, List.find?_cons, List.find?_cons]
    cases hb : e.1 == canonKey b
    · -- not `b`'s entry, extended or not: on to the rest
      rw [show ((if e.1 == ka then (e.1, e.2 ++ [v]) else e).1 == canonKey b) = false by split <;> exact hb]
      exact ih
    · -- `b`'s entry is not the one extended
      rw [if_neg fun h => hne ((beq_iff_eq.1 h).symm.trans (beq_iff_eq.1 hb)), hb]

theorem values_add_ne (h : Hdr) (a v b : Bytes) (hne : canonKey a ≠ canonKey b) :
    (Hdr.add h a v).values b = h.values b := by
  unfold Hdr.add
  split
  · exact Hdr.values_map_append_ne h _ v b hne
  · exact Hdr.values_append_ne h _ _ b hne

theorem values_addAll_ne (h : Hdr) (a : Bytes) (vs : List Bytes) (b : Bytes) (hne : canonKey a ≠ canonKey b) :
    (Hdr.addAll h a vs).values b = h.values b := by
  unfold Hdr.addAll
  induction vs generalizing h with
  | nil => rfl
  | cons v rest ih => simp only [List.foldl_cons]; rw [ih, Hdr.values_add_ne _ _ _ _ hne]

end Hdr

theorem foldl_setRaw_values (f : Bytes → Bytes) (ts : Hdr) (h : Hdr) (k : Bytes)
    (hne : ∀ t ∈ ts, f t.1 ≠ canonKey k) :
    (ts.foldl (fun acc t => Hdr.setRaw acc (f t.1) t.2) h).values k = h.values k := by
  induction ts generalizing h with
  | nil => rfl
  | cons t rest ih =>
    simp only [List.foldl_cons]
    rw [ih _ (fun t' ht' => hne t' (List.mem_cons_of_mem _ ht')),
        Hdr.values_setRaw_ne _ _ _ _ (hne t (List.mem_cons_self))]

theorem foldl_setRaw_values_mem (f : Bytes → Bytes) (hf : ∀ a b, f a = f b → a = b) (ts : Hdr) (h : Hdr) (k : Bytes)
    (t : Bytes × List Bytes) (hd : ts.Pairwise (fun a b => a.1 ≠ b.1)) (ht : t ∈ ts) (hk : f t.1 = canonKey k) :
    (ts.foldl (fun acc x => Hdr.setRaw acc (f x.1) x.2) h).values k = t.2 := by
  induction ts generalizing h with
  | nil => cases ht
  | cons t0 rest ih =>
    simp only [List.foldl_cons]
    rw [List.pairwise_cons] at hd
    rcases List.mem_cons.mp ht with rfl | hin
    · rw [foldl_setRaw_values f rest _ k fun x hx => by rw [← hk]; exact fun h' => hd.1 x hx (hf _ _ h').symm,
        Hdr.values_setRaw_same _ _ _ _ hk]
    · exact ih _ hd.2 hin

/-- Stated of the function: one `rw` then turns every `setIf` of a body, where `simp only` with the applied form
    walks the whole body (slow on one the size of `addResponseHeaders`). -/
theorem setIf_eq_setOpt : setIf = fun h c k v => h.setOpt k (if c then some v else none) := by
  funext h c k v
  cases c <;> rfl

end Vanguard
