import Vanguard.Lemmas.Hdr
import Vanguard.Lemmas.Validate
/-! The request headers on their way through `validate`: extraction deletes the client protocol's own control
    names and nothing else (what `addRequestHeaders` then assigns: `Lemmas/TargetHeaders.lean`). -/
namespace Vanguard

/-- Header names the protocol handlers read, delete or set. Everything else is application metadata. -/
def controlNames : List Bytes :=
  [s "Content-Type", s "Content-Length", s "Content-Encoding", s "Accept-Encoding", s "Te", s "Grpc-Timeout",
   s "Grpc-Encoding", s "Grpc-Accept-Encoding", s "Connect-Timeout-Ms", s "Connect-Content-Encoding",
   s "Connect-Accept-Encoding", s "Connect-Protocol-Version"]

def NotControl (k : Bytes) : Prop := ∀ c ∈ controlNames, canonKey c ≠ canonKey k

/-- The control headers of each client protocol (`extractProtocolRequestHeaders` reads and deletes them). -/
def ClientForm.ownControlNames (c : ClientForm) : List Bytes :=
  match c with
  | .grpc => [s "Te", s "Grpc-Timeout", s "Content-Type", s "Grpc-Encoding", s "Grpc-Accept-Encoding"]
  | .grpcWeb => [s "Grpc-Timeout", s "Content-Type", s "Grpc-Encoding", s "Grpc-Accept-Encoding"]
  | .connectStream => [s "Connect-Timeout-Ms", s "Content-Type", s "Connect-Content-Encoding", s "Connect-Accept-Encoding"]
  | .connectPost => [s "Connect-Timeout-Ms", s "Content-Type", s "Content-Encoding", s "Accept-Encoding", s "Connect-Protocol-Version"]
  | .connectGet => [s "Connect-Timeout-Ms", s "Accept-Encoding", s "Content-Type", s "Connect-Protocol-Version"]
  | .rest => []

theorem grpcExtract_headers {a b : Bytes} {h : Hdr} {rm : ReqMeta} {h' : Hdr}
    (hex : grpcExtractRequestMeta a b h = some (rm, h')) :
    h' = [s "Grpc-Timeout", s "Content-Type", s "Grpc-Encoding", s "Grpc-Accept-Encoding"].foldl Hdr.del h ∧
    grpcExtractTimeout (h.get (s "Grpc-Timeout")) = some rm.timeout := by
  unfold grpcExtractRequestMeta at hex
  split at hex
  · cases hex
  · rename_i ht; cases hex; exact ⟨rfl, ht⟩

theorem extract_headers {c : ClientForm} {q : Query} {h : Hdr} {rm : ReqMeta} {h' : Hdr}
    (hex : c.extractRequestHeaders q h = some (rm, h')) : h' = c.ownControlNames.foldl Hdr.del h := by
  cases c
  case grpc =>
    -- peel `Te` off by hand: left to the unifier, `h =?= h.del (s "Te")` is tried first and evaluates `s "Te"`
    rw [ClientForm.ownControlNames, List.foldl_cons]
    exact (grpcExtract_headers hex).1
  case grpcWeb => exact (grpcExtract_headers hex).1
  case rest => cases hex
  all_goals
    simp only [ClientForm.extractRequestHeaders] at hex
    split at hex
    · cases hex
    · cases hex; rfl

/-- What `validate` deletes on the way (`Validated.headers_eq`) are control names. -/
theorem deleted_subset_controlNames (c : ClientForm) :
    ∀ a ∈ c.ownControlNames ++ [s "Content-Encoding", s "Accept-Encoding", s "Content-Length"], a ∈ controlNames := by
  -- membership in `controlNames` as a disjunction, once for all names
  simp only [List.forall_mem_append, controlNames, List.mem_cons, List.not_mem_nil, or_false]
  constructor
  · cases c <;> simp only [ClientForm.ownControlNames, List.mem_cons, List.not_mem_nil, or_false, forall_eq_or_imp,
      forall_eq, true_or, or_true, and_self, false_imp_iff, implies_true]
  · -- the three that go for every form
    simp only [forall_eq_or_imp, forall_eq, true_or, or_true, and_self]

theorem Validated.headers_eq {w : World} {t : TConf} {r : Req} {o : Op} (v : Validated w t r o) :
    o.headers = (o.cform.ownControlNames ++ [s "Content-Encoding", s "Accept-Encoding", s "Content-Length"]).foldl
      Hdr.del r.headers := by
  obtain ⟨h, hex, -, ho⟩ := v.extract
  rw [ho, extract_headers hex, List.foldl_append]
  rfl

end Vanguard
