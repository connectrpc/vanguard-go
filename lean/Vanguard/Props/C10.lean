import Vanguard.Model.Run
import Vanguard.Lemmas.Chunking
import Vanguard.Gen.Facts
/-!
  C10 — The message-size limit bounds buffering on every path.

  Proved (every world, state, limit and data):
  * inflating a compressed payload never yields more than `L` bytes — more is `resource_exhausted`
    (`decompressLimited`), so on every path that decompresses (re-encode, recompress, end-of-stream
    message, error body, Connect GET message) the inflated form is bounded by `L`;
  * a message whose inflated form exceeds `L` fails `message.advanceToStage` with
    `resource_exhausted` on the paths that decompress; it is not handed on;
  * the re-encoded request is checked against `L` for *every* target protocol, exactly
    (`L` passes, `L+1` fails);
  * the whole-response buffer / buffer-to-measure (`limitWriter`) never holds more than `L` bytes:
    the invariant `buf.length ≤ L` is preserved by every write, and a write that would exceed it is
    reported as `resource_exhausted`.
  * the body of a client without envelopes that is buffered to be measured (`io.Copy` through
    `hardLimitReader`) is accepted **iff it has at most `L` bytes**, for every segmentation: `L` bytes pass,
    `L + 1` bytes are `resource_exhausted` (`unenveloped_body_bounded`, `unenveloped_body_boundary` - the
    pinned tree accepted `L + 1`, fix fefc337), and the message reader never returns more than `L` bytes
    (`unenveloped_message_bounded`).
  Partial: `bytes.Buffer` capacity growth and allocator behaviour are not modelled.  `oracleC10`
  checks on the implementation that clean scenarios whose every representation fits are never
  rejected for size and that a message with an inflated or re-encoded form above the limit on a
  buffering path fails with resource_exhausted without being delivered.
-/
namespace Vanguard.C10

theorem inflation_bounded (w : World) (z d : Bytes) (limit : Nat) (r : Bytes)
    (h : decompressLimited w z d limit = .ok r) : r.length ≤ limit := by
  unfold decompressLimited at h
  split at h
  · simp at h
  · split at h
    · simp at h
    · simp only [Except.ok.injEq] at h; subst h; omega

theorem oversized_inflation_rejected (w : World) (z d r : Bytes) (limit : Nat)
    (hd : w.decompress z d = some r) (hbig : r.length > limit) :
    decompressLimited w z d limit = .error (.rpc 8) := by
  unfold decompressLimited; simp [hd, hbig]

/-- Wherever `message.advanceToStage` decompresses (every path but the identity one), a compressed
    message whose inflated form exceeds `L` is not transformed (and so not delivered): the outcome is
    `resource_exhausted`. -/
theorem bomb_fails (w : World) (limit : Nat) (sameCodec sameCompression : Bool) (z : Bytes) (zs : Option Bytes)
    (cc sc data r : Bytes) (hpath : (sameCodec && sameCompression) = false) (hne : data ≠ [])
    (hd : w.decompress z data = some r) (hbig : r.length > limit) :
    transformMsg w limit sameCodec sameCompression true (some z) zs cc sc data = .error (.rpc 8) := by
  have hempty : data.isEmpty = false := List.isEmpty_eq_false_iff.mpr hne
  unfold transformMsg
  cases sameCodec <;> simp_all [oversized_inflation_rejected w z data r limit hd hbig]

theorem bomb_fails_reencode (w : World) (limit : Nat) (sameCompression : Bool) (z : Bytes) (zs : Option Bytes)
    (cc sc data r : Bytes) (hne : data ≠ []) (hd : w.decompress z data = some r) (hbig : r.length > limit) :
    transformMsg w limit false sameCompression true (some z) zs cc sc data = .error (.rpc 8) :=
  bomb_fails w limit false sameCompression z zs cc sc data r rfl hne hd hbig

theorem bomb_fails_recompress (w : World) (limit : Nat) (z : Bytes) (zs : Option Bytes)
    (c data r : Bytes) (hne : data ≠ []) (hd : w.decompress z data = some r) (hbig : r.length > limit) :
    transformMsg w limit true false true (some z) zs c c data = .error (.rpc 8) :=
  bomb_fails w limit true false z zs c c data r rfl hne hd hbig

/-- The re-encoded request is checked for every target protocol, and exactly at the limit. -/
theorem reencoded_size_checked (o : Op) (out : Bytes) (wasCompressed : Bool) :
    (out.length > o.conf.maxMsg → requestEnvelope o out wasCompressed = .error (.rpc 8)) ∧
    (out.length ≤ o.conf.maxMsg → ∃ env, requestEnvelope o out wasCompressed = .ok env) := by
  unfold requestEnvelope
  constructor
  · intro h; simp [h]
  · intro h
    have : ¬ out.length > o.conf.maxMsg := by omega
    simp only [this, if_false]
    cases o.serverEnveloper <;> exact ⟨_, rfl⟩

/-- **Buffer invariant.** The whole-response buffer never exceeds `L`: a write keeps it within the
    limit, or is refused. -/
theorem response_buffer_bounded (w : World) (st : St) (b buf : Bytes)
    (hb : st.rw.buf = some buf) (hinv : buf.length ≤ st.op.conf.maxMsg) :
    let r := writeDown w st b
    (r.2.1 = false → ∃ buf', r.1.rw.buf = some buf' ∧ buf'.length ≤ st.op.conf.maxMsg ∧ buf' = buf ++ b) ∧
    (buf.length + b.length > st.op.conf.maxMsg → r.2.1 = true) := by
  unfold writeDown
  simp only [hb]
  by_cases hbig : buf.length + b.length > st.op.conf.maxMsg
  · simp [hbig]
  · simp only [hbig, if_false]
    refine ⟨fun _ => ⟨buf ++ b, rfl, by simp; omega, rfl⟩, False.elim⟩

/-- Boundary: a message of exactly `L` bytes passes the re-encoded-size check, `L + 1` does not. -/
example (o : Op) (wasCompressed : Bool) (out : Bytes) (h : out.length = o.conf.maxMsg) :
    ∃ env, requestEnvelope o out wasCompressed = .ok env :=
  (reencoded_size_checked o out wasCompressed).2 (by omega)

/-- **A buffered request body is bounded**: whatever the segmentation, reading a whole body under the
    limit succeeds only with at most `limit` bytes, and then returns exactly the body. -/
theorem unenveloped_body_bounded (w : World) (limit fuel : Nat) (st : St) (hf : st.src.data.length + 1 < fuel)
    (hok : (copyAllLimited w false limit fuel st 0 []).2.1 = none) :
    (copyAllLimited w false limit fuel st 0 []).1 = st.src.data ∧ st.src.data.length ≤ limit := by
  obtain ⟨-, hcat, he, hnil⟩ := copyAllLimited_spec (rfl : copyAllLimited w false limit fuel st 0 [] = _) (Nat.lt_of_succ_lt hf)
  rw [Nat.zero_add] at he hnil
  have hle : st.src.data.length ≤ limit := copySpecErr_none (he ▸ hok)
  rw [hnil hle, List.append_nil] at hcat
  exact ⟨hcat, hle⟩

/-- **The boundary is exact**: a body of `limit + 1` bytes is `resource_exhausted`, a body of
    `limit` bytes that ends cleanly is accepted - for every segmentation of the body. -/
theorem unenveloped_body_boundary (w : World) (limit fuel : Nat) (st : St) (hf : st.src.data.length + 1 < fuel) :
    (st.src.data.length = limit + 1 → (copyAllLimited w false limit fuel st 0 []).2.1 = some (.rpc 8)) ∧
    (st.src.data.length = limit → st.src.ending ≠ .unexpected → (copyAllLimited w false limit fuel st 0 []).2.1 = none) := by
  have h := (copyAllLimited_spec (rfl : copyAllLimited w false limit fuel st 0 [] = _) (Nat.lt_of_succ_lt hf)).2.2.1
  rw [Nat.zero_add] at h
  constructor
  · intro hl; rw [h]; unfold copySpecErr; rw [if_pos (by omega)]
  · intro hl he
    rw [h]; unfold copySpecErr
    rw [if_neg (by omega)]
    cases hend : st.src.ending <;> simp_all

/-- The one message of a client without envelopes, as `readRequestMessage` returns it, has at most
    `L` bytes (when the request declares no length; a declared length above `L` is refused up front). -/
theorem unenveloped_message_bounded (w : World) (st : St) (data : Bytes) (c : Bool)
    (hce : st.op.clientEnveloper = none) (hcl : st.op.contentLen = -1)
    (hok : (readRequestMessage w st false).1 = .ok (data, c)) : data.length ≤ st.op.conf.maxMsg := by
  rw [readRequestMessage_unenveloped w st false hce] at hok
  simp only [wholeBody, hcl, bne_self_eq_false, Bool.false_and, Bool.false_eq_true, if_false, beq_self_eq_true, if_true] at hok
  split at hok
  · cases hok
  · rename_i hs
    split at hok
    · cases hok
    · cases hok; exact copySpecErr_none hs

/-- **Tie to the source**: the limit `envelopingReader.prepareNext` hands to the reader through which it
    buffers a body of undeclared length is, in the repository's source as read on this run, the one of
    the model (`maxMsgBufferBytes + 0`; the pinned tree had `+ 1`). -/
theorem source_buffered_body_limit_is_model (m : Nat) : bufferedBodyLimit m = m + Gen.bufferedBodyLimitExtra := rfl

end Vanguard.C10
