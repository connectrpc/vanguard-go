import Vanguard.Model.Rest
import Vanguard.Lemmas.PathEscape
/-!
  # C07 — REST binding follows google.api.http; to-REST-and-back is the identity

  `Model/Rest` mirrors the code that turns a request message into path, query and body of a REST
  request (`httpEncodePathValues`, `httpSplitVar`) and the code that turns a REST request into a
  message (route match and capture, body, path variables, query parameters in sorted order,
  `setParameter`).  Messages are lists of scalar leaves; the scalar text codecs and the JSON body
  codec are outside the model.

  Proved, for every input:
  * a single-segment variable survives the trip through the URL whatever bytes it contains,
    reserved characters, `%` and `/` included (`single_var_round_trip`);
  * splitting a multi-segment value at `/` and joining it again is the identity
    (`join_split`), so a `**` value is reassembled from its segments exactly;
  * parameters are never coerced: a text the kind does not accept is `invalid_argument`
    (`setLeaf_rejects`), `null` is not a number or a bool (`null_is_not_a_number`,
    `null_is_not_a_bool`; the pinned tree accepted it, fixed), a string parameter is taken
    verbatim (`string_verbatim`);
  * `setParameter`: a singular field holds the last value set, a repeated field accumulates in
    order (`setLeaf_singular_last`, `setLeaf_repeated_appends`);
  * (by construction of the model, compared with the implementation:) query parameters are applied
    sorted by name, so the outcome is a function of the request; the pinned tree applied them in
    map iteration order (fixed).

  NOT proved (partial): the whole round trip `restDecode (restEncode m) = m` for every rule and
  message.  It is evaluated by both the implementation and the model on every generated case
  (`same=1` in the `rest_rt` op) and the oracle fails on any round trip that changes the message.
-/
namespace Vanguard.C07
open Vanguard.Cfg Vanguard.Rest

/-- **A `*` variable is transported exactly**: what `httpSplitVar` writes into the path,
    `routeTargetVar.capture` reads back, for every value. -/
theorem single_var_round_trip (value : Bytes) :
    (splitVar value false).mapM (pathUnescape .single) = some [value] := by
  simp [splitVar, unescape_escape_single]

/-- A split has at least one piece: the third branch of `splitOnByte` is never taken. -/
theorem splitOnByte_ne_nil (sep : UInt8) (v : Bytes) : splitOnByte sep v ≠ [] := by
  fun_induction splitOnByte sep v with
  | case1 | case2 | case3 => nofun
  | case4 _ _ _ heq ih => exact absurd heq ih

theorem splitOnByte_cons (sep c : UInt8) (v : Bytes) : ∃ a t, splitOnByte sep v = a :: t ∧
    splitOnByte sep (c :: v) = if c == sep then [] :: a :: t else (c :: a) :: t := by
  cases h : splitOnByte sep v with
  | nil => exact absurd h (splitOnByte_ne_nil sep v)
  | cons a t => exact ⟨a, t, rfl, by rw [splitOnByte, h]⟩

theorem join_split (sep : UInt8) : ∀ v : Bytes, joinWith sep (splitOnByte sep v) = v := by
  intro v
  induction v with
  | nil => rfl
  | cons c rest ih =>
    obtain ⟨a, t, h1, h2⟩ := splitOnByte_cons sep c rest
    rw [h1] at ih
    rw [h2]
    split
    · rename_i h; simp only [joinWith, List.nil_append, ih, beq_iff_eq.mp h]
    · cases t with
      | nil => simpa [joinWith] using ih
      | cons b t' => simp only [joinWith, List.cons_append] at ih ⊢; rw [ih]

theorem splitOnByte_no_sep (sep : UInt8) : ∀ v : Bytes, ∀ seg ∈ splitOnByte sep v, sep ∉ seg := by
  intro v
  induction v with
  | nil => simp [splitOnByte]
  | cons c rest ih =>
    obtain ⟨a, t, h1, h2⟩ := splitOnByte_cons sep c rest
    rw [h1] at ih
    rw [h2]
    split
    · exact List.forall_mem_cons.mpr ⟨List.not_mem_nil, ih⟩
    · rename_i hc
      obtain ⟨ha, ht⟩ := List.forall_mem_cons.mp ih
      refine List.forall_mem_cons.mpr ⟨fun h => ?_, ht⟩
      rcases List.mem_cons.mp h with rfl | h
      · exact hc BEq.rfl
      · exact ha h

theorem mapM_unescape_escape_multi : ∀ l : List Bytes, (∀ x ∈ l, (0x2F : UInt8) ∉ x) →
    (l.map (pathEscape .multi)).mapM (pathUnescape .multi) = some (l.map canonSlash) := by
  intro l
  induction l with
  | nil => intro _; simp
  | cons x xs ih =>
    intro h
    simp only [List.map_cons, List.mapM_cons]
    rw [unescape_escape_multi x (h x (by simp)), ih (fun y hy => h y (by simp [hy]))]
    rfl

/-- **A `**` variable**: what `httpSplitVar` writes into the path for a multi-segment variable (the value split
    at `/`, every piece escaped in multi-segment mode), `routeTargetVar.capture` reads back piece by piece as the
    same pieces - except that an escaped slash the value spells `%2f` comes back spelled `%2F` (`canonSlash`).
    For every value. -/
theorem multi_var_round_trip (value : Bytes) :
    (splitVar value true).mapM (pathUnescape .multi) = some ((splitOnByte 0x2F value).map canonSlash) := by
  simp only [splitVar, Bool.not_true, Bool.false_eq_true, if_false]
  exact mapM_unescape_escape_multi _ (splitOnByte_no_sep 0x2F value)

/-- **A `**` variable is transported exactly** whenever no piece of the value contains the lower-case
    spelling `%2f` of an escaped slash: split, escape, unescape, join is the identity. -/
theorem multi_var_round_trip_exact (value : Bytes) (h : ∀ seg ∈ splitOnByte 0x2F value, canonSlash seg = seg) :
    ((splitVar value true).mapM (pathUnescape .multi)).map (joinWith 0x2F) = some value := by
  rw [multi_var_round_trip]
  have : (splitOnByte 0x2F value).map canonSlash = splitOnByte 0x2F value := by
    conv => rhs; rw [← List.map_id (splitOnByte 0x2F value)]
    exact List.map_congr_left (fun x hx => by simpa using h x hx)
  simp [this, join_split]

/-- The hypothesis is met by values with slashes, percent signs and the upper-case spelling. -/
example : ∀ seg ∈ splitOnByte 0x2F (s "a b/%2F/100%"), canonSlash seg = seg := by decide +kernel

/-- **The exception is real** (negation of the unrestricted round trip, by a witness): the value `%2f`
    comes back as `%2F`.  The repository's own `TestHTTPEncodePathValues` pins this spelling
    (`books/%2F%2f …` is written as `books/%2F%2F…`), see `known_findings.json`. -/
theorem multi_var_lowercase_slash_not_preserved :
    ((splitVar (s "%2f") true).mapM (pathUnescape .multi)).map (joinWith 0x2F) = some (s "%2F") := by decide +kernel

/-- A text the field's kind does not accept is rejected as `invalid_argument`, never coerced. -/
theorem setLeaf_rejects (m : Leaves) (fs : List FieldD) (f : FieldD) (text : Bytes)
    (hl : fs.getLast? = some f) (hm : f.message = none) (hv : validText f text = none) :
    setLeaf m fs text = .error .invalid := by
  simp [setLeaf, hl, hm, hv]

theorem null_is_not_a_number (lo hi : Int) : jsonInt lo hi tNull = none := rfl

theorem null_is_not_a_bool (f : FieldD) (hk : f.kind = kBool) : validText f tNull = none := by
  unfold validText
  rw [hk]
  decide

/-- An unsigned 32-bit parameter above 2^32-1, or with a sign, is rejected - never reduced modulo 2^32. -/
theorem uint32_out_of_range_rejected (f : FieldD) (hk : f.kind = kUint32) :
    validText f (s "4294967296") = none ∧ validText f (s "4294967303") = none ∧ validText f (s "-0") = none ∧
    validText f (s "4294967295") = some (s "4294967295") := by
  unfold validText
  rw [hk]
  decide +kernel

/-- A string parameter is taken verbatim. -/
theorem string_verbatim (f : FieldD) (hk : f.kind = kString) (text : Bytes) : validText f text = some text := by
  simp [validText, hk]

/-- `setParameter` on a singular field: the field holds exactly the (canonical, non-default) value
    set last, whatever it held before. -/
theorem setLeaf_singular_last (m : Leaves) (fs : List FieldD) (f : FieldD) (text canon : Bytes)
    (hl : fs.getLast? = some f) (hm : f.message = none) (hr : f.repeated = false)
    (hv : validText f text = some canon) (hd : isDefault f canon = false) :
    ∃ m', setLeaf m fs text = .ok m' ∧ valuesOf m' (protoPath fs) = [canon] := by
  refine ⟨(m.filter (·.1 != protoPath fs)) ++ [(protoPath fs, canon)], ?_, ?_⟩
  · simp [setLeaf, hl, hm, hr, hv, hd]
  · simp [valuesOf, List.filter_append, List.filter_filter]

/-- ... on a repeated field: the new value is appended behind those already there. -/
theorem setLeaf_repeated_appends (m : Leaves) (fs : List FieldD) (f : FieldD) (text canon : Bytes)
    (hl : fs.getLast? = some f) (hm : f.message = none) (hr : f.repeated = true)
    (hv : validText f text = some canon) :
    ∃ m', setLeaf m fs text = .ok m' ∧ valuesOf m' (protoPath fs) = valuesOf m (protoPath fs) ++ [canon] := by
  refine ⟨m ++ [(protoPath fs, canon)], ?_, ?_⟩
  · simp [setLeaf, hl, hm, hr, hv]
  · simp [valuesOf, List.filter_append]

/-! ### tests on concrete values (labelled as tests: they sample, they do not quantify) -/

/-- test: a value with `/`, `%`, space and a non-ASCII byte through a `*` variable. -/
example : (splitVar [0x61, 0x2F, 0x25, 0x20, 0xC3] false).mapM (pathUnescape .single) = some [[0x61, 0x2F, 0x25, 0x20, 0xC3]] := by
  decide
/-- test: integer texts. -/
example : jsonInt (-2147483648) 2147483647 [0x30, 0x30, 0x37] = none := by decide          -- "007"
example : jsonInt (-2147483648) 2147483647 [0x31, 0x65, 0x33] = none := by decide          -- "1e3"
example : jsonInt (-2147483648) 2147483647 [0x2D, 0x33] = some (-3) := by decide           -- "-3"

end Vanguard.C07
