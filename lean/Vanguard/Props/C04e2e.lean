import Vanguard.Props.C04
import Vanguard.Lemmas.EndRelay
import Vanguard.Lemmas.UnaryHead
import Vanguard.Lemmas.UInt8
import Vanguard.Lemmas.List
import Vanguard.Gen.Facts
/-!
  C04, second part — **the error a backend (or the transcoder) ends an RPC with is the error the client
  reads**, for the whole response path of the model of `Transcoder.ServeHTTP`.

  `Sink.clientErr c k` (`Lemmas/EndRelay.lean`) is the RPC error a client of form `c` reads off the
  response `k` it received: the gRPC status in the response head or in the HTTP trailers, the error
  inside the end-of-stream frame (Connect streaming) or trailer frame (gRPC-Web), the error body of
  a unary Connect response.  An `RpcErr` is code, message and the list of details (kept as the value
  the backend's own decoder produced; vanguard never looks inside).

  Proved, for every world, configuration and state the response writer can be in (`Good`, C03's
  invariant, which holds in every reachable state — `C03.script_keeps_good`):

  * `first_reported_end_reaches_client`: the first end reported on an open response is exactly what
    the client reads — for gRPC, gRPC-Web and Connect-streaming clients in every state; for a unary
    Connect client as long as the response head has not been sent (`CanTell`);
  * where the ends come from: the backend's HTTP trailers (`backend_trailer_status_reaches_client`,
    gRPC backends), the backend's response head (`backend_head_status_reaches_client`: trailers-only
    gRPC responses and the status/error body of a unary Connect backend), the backend's end-of-stream
    message (`backend_end_message_reaches_client`: Connect streaming and gRPC-Web backends, also when
    that message is compressed), and the transcoder itself (`transcoder_error_keeps_its_code`);
  * `reported_end_is_final`: whatever the handler does afterwards (more writes, header changes,
    reads that fail, returning) and the final `close`, the client still reads that same error —
    together with C03's `at_most_one_end` this is "the same code, message and details, once";
  * `unary_error_status_is_published`: the HTTP status of a unary Connect error response is the
    published status of its code.

  `CanTell` is no hypothesis on reachable states: `first_reported_end_reaches_client_in_every_run` and
  `backend_trailer_status_reaches_client_at_close` state the relay for every state a handler script can
  reach (a unary Connect client's head is never sent while the RPC is open: `UInv`, `Lemmas/UnaryHead.lean`).
  Partial: REST clients are outside the e2e model.  The encodings (JSON error bodies, `Grpc-Status-Details-Bin`, percent
  coding of `Grpc-Message`: `percent_roundtrip`) are functions outside resp. leaf theorems of part one.
-/
namespace Vanguard.C04

theorem first_reported_end_reaches_client (w : World) (st : St) (e : RespEnd) (hg : Good st)
    (hopen : st.rw.endWritten = false) (ht : CanTell st) :
    (reportEnd w st e).1.sink.clientErr st.op.cform = e.err :=
  reportEnd_relays w st e hg hopen ht

/-- A gRPC backend's status, message and details in the HTTP trailers reach the client. -/
theorem backend_trailer_status_reaches_client (w : World) (tb : Tables) (st : St) (e : RespEnd) (hg : Good st)
    (hopen : st.rw.endWritten = false) (ht : CanTell st) (hrm : (st.rw.respMeta.getD {}).end = none)
    (hx : st.op.sform.extractEndFromTrailers tb
            (httpExtractTrailers st.hdr (st.rw.respMeta.getD {}).pendingTrailerKeys).1 = some e) :
    (rwCloseEnd w tb st).1.sink.clientErr st.op.cform = e.err :=
  rwCloseEnd_relays_trailers w tb st e hg hopen ht hrm hx

theorem backend_head_status_reaches_client (w : World) (tb : Tables) (st : St) (e : RespEnd) (hg : Good st)
    (hopen : st.rw.endWritten = false) (ht : CanTell st) (hrm : (st.rw.respMeta.getD {}).end = some e) :
    (rwCloseEnd w tb st).1.sink.clientErr st.op.cform = e.err := by
  unfold rwCloseEnd
  simp only [hopen, Bool.false_eq_true, if_false, hrm]
  exact reportEnd_relays w st e hg hopen ht

/-- The end-of-stream message of a Connect-streaming or gRPC-Web backend reaches the client. -/
theorem backend_end_message_reaches_client (w : World) (tb : Tables) (st : St) (compressed : Bool) (data d : Bytes)
    (r : Bool) (e : RespEnd) (hg : Good st) (hopen : st.rw.endWritten = false) (ht : CanTell st)
    (hplain : EndPlain w st compressed data d) (hdec : decodeEndFromMessage tb st.op.sform d = some e) :
    (handleEndMessage w tb st compressed data r).1.sink.clientErr st.op.cform = e.err := by
  unfold handleEndMessage
  rcases hplain with ⟨h1, h2⟩ | ⟨h1, h2, h3⟩ | ⟨z, h1, h2, h3⟩
  · subst h2
    simp only [h1, Bool.false_eq_true, if_false, hdec]
    exact reportEnd_relays w st _ hg hopen ht
  · subst h3
    simp only [h1, if_true, h2, hdec]
    exact reportEnd_relays w st _ hg hopen ht
  · simp only [h1, if_true, h2, h3, hdec]
    exact reportEnd_relays w st _ hg hopen ht

/-- An error the transcoder reports itself reaches the client with the code it was reported with
    (any other Go error is `unknown`). -/
theorem transcoder_error_keeps_its_code (w : World) (st : St) (err : Err) (hg : Good st)
    (hopen : st.rw.endWritten = false) (ht : CanTell st) :
    (reportError w st err).1.sink.clientErr st.op.cform =
      some (genErr (match err with | .rpc code => code | _ => 2)) :=
  reportError_relays w st err hg hopen ht

/-- **The reported end is final**: after the first end, any handler script and the closing of the
    response leave the client reading the same error. -/
theorem reported_end_is_final (w : World) (tb : Tables) (pl : HandlePlan) (script : List BOp) (total0 : Nat)
    (f : Flight) (e : RespEnd) (hg : Good f.st) (hopen : f.st.rw.endWritten = false) (ht : CanTell f.st) :
    let f1 : Flight := { f with st := (reportEnd w f.st e).1 }
    (rwClose w tb (runScript w tb pl script total0 f1).1.st).1.sink.clientErr f.st.op.cform = e.err := by
  intro f1
  have hg1 : Good f1.st := (reportEnd_ev w f.st e hg).1
  have he1 : f1.st.rw.endWritten = true := reportEnd_ends w f.st e
  have hrun := runScript_ev w tb pl script total0 f1 hg1
  rw [((rwClose_ev w tb _ hrun.1).2 (hrun.2 he1).2).1.clientErr, (hrun.2 he1).1.clientErr]
  exact reportEnd_relays w f.st e hg hopen ht

/-!
  `UInv` (`Lemmas/UnaryHead.lean`; kept by each of the steps `WrReach` and `RdReach` are made of): a client whose
  end must be in the response head (unary Connect) never gets the head while the RPC is open - kept by every
  reader, writer and handler operation.  So `CanTell` holds in every reachable open state and the relay
  theorems hold there for all five client forms of the e2e model. -/

/-- **Every run**: take any handler script (reads, header changes, `WriteHeader`, `Write` with any bytes,
    `Flush`, `Close`), stopped anywhere; if the RPC is still open, the end reported next is what the client
    reads - gRPC, gRPC-Web, Connect streaming and unary Connect alike. -/
theorem first_reported_end_reaches_client_in_every_run (w : World) (tb : Tables) (pl : HandlePlan) (script : List BOp)
    (total0 : Nat) (st : St) (skip : Bool) (rd : Reader) (e : RespEnd) (hrw : st.rw = {}) (hg : Good st) :
    let st' := (runScript w tb pl script total0 { st := transcodeStartState st skip, rd := rd }).1.st
    st'.op.cform ≠ .rest → st'.rw.endWritten = false →
      (reportEnd w st' e).1.sink.clientErr st'.op.cform = e.err := by
  intro st' hc hopen
  have hg' : Good st' := (runScript_ev w tb pl script total0 _ (transcodeStartState_ev st skip hg).1).1
  exact reportEnd_relays w st' e hg' hopen (reachable_can_tell w tb pl script total0 st skip rd hrw hc hopen)

/-- **The close of every run**: when `close` takes the end from the backend's HTTP trailers (gRPC backends), the
    client reads that status - whatever the handler did before, for every client form of the e2e model. -/
theorem backend_trailer_status_reaches_client_at_close (w : World) (tb : Tables) (pl : HandlePlan) (script : List BOp)
    (total0 : Nat) (st : St) (skip : Bool) (rd : Reader) (e : RespEnd) (hrw : st.rw = {}) (hg : Good st) :
    let st' := (runScript w tb pl script total0 { st := transcodeStartState st skip, rd := rd }).1.st
    let s1 := (rwCloseWriter w tb (if st'.rw.headersWritten = true then (st', false) else rwWriteHeader w tb st' 200).1).1
    s1.op.cform ≠ .rest → s1.rw.endWritten = false → (s1.rw.respMeta.getD {}).end = none →
    s1.op.sform.extractEndFromTrailers tb (httpExtractTrailers s1.hdr (s1.rw.respMeta.getD {}).pendingTrailerKeys).1 = some e →
      (rwCloseEnd w tb s1).1.sink.clientErr s1.op.cform = e.err := by
  intro st' s1 hc hopen hrm hx
  have hg' : Good st' := (runScript_ev w tb pl script total0 _ (transcodeStartState_ev st skip hg).1).1
  have hu' : UInv st' := runScript_uinv w tb pl script total0 _ (start_uinv st skip hrw)
  -- `s1` is the `let` of the statement, with the implicit `WriteHeader` as the `if` it is in the model: name it as the explicit call
  rw [show s1 = (rwCloseWriter w tb (rwWriteHeader w tb st' 200).1).1 by rw [← implicitHeader_eq]] at *
  have hg1 := (Ev.trans (rwWriteHeader_ev w tb st' 200) (rwCloseWriter_ev w tb _) hg').1
  have hu1 := UInv.step (rwCloseWriter_us w tb _) (rwWriteHeader_uinv w tb st' 200 hu')
  exact rwCloseEnd_relays_trailers w tb _ e hg1 hopen (hu1.can_tell hc hopen) hrm hx

/-- The HTTP status of a unary Connect error response is the published status of the error's code
    (`addProtocolResponseHeaders` of the unary Connect client forms). -/
theorem unary_error_status_is_published (c : ClientForm) (rm : RespMeta) (k : Sink) (e : RespEnd) (err : RpcErr)
    (hc : c = .connectPost ∨ c = .connectGet) (he : rm.end = some e) (herr : e.err = some err) :
    (addResponseHeaders c rm k).1 = some (Spec.httpOfCode err.code) := by
  have hs := status_from_rpc_spec err.code
  unfold Spec.statusFromRPCOk at hs
  rw [addResponseHeaders_fst, if_pos hc, he, Option.bind_some, herr]
  cases hh : httpStatusFromRPC err.code with
  | none => simp [hh] at hs
  | some v => simpa [hh] using hs

/-! ### the model's tables are the ones in the source (regenerated by `/verif/extract` on every run) -/

/-- The table the model uses is, element for element, `httpStatusCodeFromRPCIndex` as the source
    reads now. -/
theorem source_status_table_is_model : Gen.statusTable = statusTable := by decide

/-- The range guard in the source is the non-strict one the model uses, and out-of-range codes
    get 500. -/
theorem source_status_guard_is_model : Gen.statusGuardStrict = false ∧ Gen.statusOutOfRange = 500 := by decide

/-- `httpStatusCodeToRPC` of the model is the switch in the source: first matching case, else the
    default - for every status value. -/
theorem source_to_rpc_is_model (status : Int) :
    httpStatusToRPC status =
      ((Gen.toRPCCases.find? fun c => (c.1 : Int) == status).map (·.2)).getD Gen.toRPCDefault := by
  refine List.switch_table Gen.toRPCCases (fun n : Nat => (n : Int)) _ httpStatusToRPC (by decide) status fun hoff => ?_
  -- off the rows every test of the model's ladder fails
  simp only [Gen.toRPCCases, List.forall_mem_cons, List.not_mem_nil, false_imp_iff, implies_true, and_true, ne_eq,
    eq_comm (b := status), Int.cast_ofNat_Int] at hoff
  simp only [httpStatusToRPC, hoff, if_false, or_self]; rfl

/-! ### the character classes of the percent coding are the ones in the source as it reads now
  (`Gen.grpcShouldEscapeSrc`, `Gen.ishexSrc`: translated from `protocol_grpc.go` / `path_parser.go` on every run) -/

theorem source_percent_classes_are_model : ∀ c : UInt8,
    grpcShouldEscape c = Gen.grpcShouldEscapeSrc c ∧ ishex c = Gen.ishexSrc c :=
  forall_uint8 (by decide +kernel)

def xConf : MethodConf := { path := s "/p.S/M", streamType := .bidi, noSideEffects := false, protocols := [.grpc], codecs := [rawName], compressors := [], maxMsg := 100, maxGetURL := 100 }
def xOp (c : ClientForm) : Op := { conf := xConf, cform := c, sform := .grpc, reqMeta := {}, ccodec := rawName, scodec := rawName, cReqComp := none, sReqComp := none, headers := [], contentLen := -1, query := [], reqMethod := sPOST }
def xSt (c : ClientForm) : St := { op := xOp c, src := { chunks := [], ending := .eof }, sink := {} }
def xErr : RpcErr := { code := 5, msg := .text [0x6E, 0x6F], details := 2 }

/-- The hypotheses are satisfiable: a fresh request state is `Good`, open, and every client form of
    the e2e model can be told the end. -/
example (c : ClientForm) (hc : c ≠ .rest) : Good (xSt c) ∧ (xSt c).rw.endWritten = false ∧ CanTell (xSt c) :=
  ⟨good_init _ _, rfl, hc, Or.inr rfl⟩

/-- The hypotheses of the whole-run theorems hold for the state `ServeHTTP` starts from. -/
example (c : ClientForm) : (xSt c).rw = {} ∧ Good (xSt c) := ⟨rfl, good_init _ _⟩

/-- Kernel-evaluated: a unary Connect client in front of a gRPC backend that sent its head and one
    complete message - the RPC is open, the client's head has not gone out, and an error reported
    now is read back by the client. -/
def xRun : St := (runScript fakeWorld {} ((xOp .connectPost).plan fakeWorld)
  [.sethdr (s "Content-Type") (s "application/grpc+raw"), .status 200, .write [0, 0, 0, 0, 1, 7]] 0
  { st := transcodeStartState (xSt .connectPost) false, rd := .raw }).1.st
example : (xRun.rw.endWritten, xRun.rw.headersFlushed, xRun.rw.buf) = (false, false, some [7]) := by decide +kernel
example : (reportEnd fakeWorld xRun { err := some xErr }).1.sink.clientErr .connectPost = some xErr := by decide +kernel

/-- Kernel-evaluated instances: `not_found` with a message and two details, reported on a fresh
    response, is read back by clients of all five forms. -/
example : (reportEnd fakeWorld (xSt .grpc) { err := some xErr }).1.sink.clientErr .grpc = some xErr := by decide +kernel
example : (reportEnd fakeWorld (xSt .grpcWeb) { err := some xErr }).1.sink.clientErr .grpcWeb = some xErr := by decide +kernel
example : (reportEnd fakeWorld (xSt .connectStream) { err := some xErr }).1.sink.clientErr .connectStream = some xErr := by decide +kernel
example : (reportEnd fakeWorld (xSt .connectPost) { err := some xErr }).1.sink.clientErr .connectPost = some xErr := by decide +kernel
example : (reportEnd fakeWorld (xSt .connectPost) { err := some xErr }).1.sink.status = some 404 := by decide +kernel
/-- ... and `clientErr` does tell errors apart. -/
example : (reportEnd fakeWorld (xSt .grpc) { err := some xErr }).1.sink.clientErr .grpc ≠ some { xErr with code := 13 } := by decide +kernel

end Vanguard.C04
