import Vanguard.Model.Run
import Vanguard.Lemmas.Frame
import Vanguard.Lemmas.ReadReach
import Vanguard.Spec.Progress
import Vanguard.Lemmas.WriteLoops
import Vanguard.Lemmas.Outcome
import Vanguard.Lemmas.ReframeStream
/-!
  # C16 — streaming RPCs make progress message by message

  The model mirrors the chunk-level control flow of the adapters (`Read(n)` / `Write(chunk)` are its
  units) and its sink records when `Flush` is called, so hidden buffering is visible in it.

  Proved here, for every state of the adapters:
  * response direction: when the client protocol streams (`responseWriter.buf = nil`) the
    per-message flush puts everything written so far on the wire (`flushMessage_streaming`), and a
    response message that the transforming writer has converted successfully is on the wire when
    the call returns (`twFlushMessage_forwards`); only when the end must precede the body
    (`buf ≠ nil`: Connect unary, REST) is the flush withheld (`flushMessage_deferred`);
  * request direction: a `Read` that can be served from the message in hand - rest of an envelope,
    rest of a converted message - does not touch the client's body (`trRead_no_lookahead`,
    `erRead_envelope_no_pull`), and the reader of one re-enveloped message never takes more than
    that message's announced length, nothing at all once it is exhausted
    (`limited_never_exceeds`, `limited_exhausted_no_pull`).

  * **whole `Write` calls on the re-encoding path** (`twWrite_keeps`, by induction over the write
    loop): whatever the backend writes - any number of messages, split anywhere, malformed or
    over the limit, errors included - when `transformingWriter.Write` returns, everything written to
    a streaming client so far has been flushed (`AllFlushed` is an invariant of the writer).

  * **whole `Write` calls on the re-framing path** (`ewLoop_flushed_at_boundaries`, `ewWrite_flushed_at_boundaries`):
    the re-framing writer streams a message through while the backend is still writing it, so bytes of
    an unfinished message may be unflushed; but whenever the writer is *between messages* (waiting for
    the next envelope) everything written to a streaming client so far has been flushed - for any
    backend output, split anywhere, errors included.  So a complete response message is on the wire
    when the `Write` call that completed it returns.

  * **whole runs, response direction** (`runScript_prog`, `nothing_complete_is_held_back`,
    `serve_handler_makes_progress`): `ProgInv` is an invariant of every handler script - any sequence of
    reads of any size, header changes, `WriteHeader`, `Write` calls with any bytes split anywhere,
    `Flush`, `Close`, stopped at any point - from the state `ServeHTTP` hands to the handler.  So while
    the RPC is open and the client's protocol streams, after *every* call of the handler everything
    written on the re-encoding path is flushed, and on the re-framing path everything is flushed
    whenever the writer is between messages.  The proof goes through frame lemmas for every writer
    function (`Lemmas/Frame.lean`) and the closure of what the request readers can do to the request
    state (`Lemmas/ReadReach.lean`).

  * **whole runs, request direction, re-framing path** (`reframing_reader_holds_back_nothing`, from
    `erRead_conserves` in `Lemmas/ReframeStream.lean`): after any sequence of successful reads of any
    sizes the bytes handed to the handler plus at most five pending envelope bytes plus what is left of
    the client's body add up to the body - the reader takes nothing of a later message early.

  NOT proved (partial): the request direction for whole runs on the re-encoding path - "delivering
  message k consumes at most k client messages" as an invariant of `runScript` (per `Read` call it is
  `trRead_no_lookahead`; by construction a whole message is read only when the previous one is used up).  For whole runs it is the executable predicate
  `Spec.reqStepOk` (and `Spec.respStepOk` for the response direction, which is also a theorem of the model),
  evaluated on the progress logs of the implementation for every scenario (and the model's logs are
  compared with the implementation's, flush offsets included), plus a lock-step client in the harness
  that reports the first `Read` which would block for ever.  A real HTTP/2 connection (flow control,
  the net/http server's own buffering) is outside the model.
-/
namespace Vanguard.C16

/-- With a streaming client protocol the per-message flush leaves nothing unflushed. -/
theorem flushMessage_streaming (st : St) (h : st.rw.buf = none) :
    (flushMessage st).sink.flushedN = some (flushMessage st).sink.items.length := by
  simp [flushMessage, h, Sink.flush]

/-- The flush is withheld exactly when the whole response is being buffered because the outcome
    must precede the body. -/
theorem flushMessage_deferred (st : St) (h : st.rw.buf.isSome = true) : flushMessage st = st := by
  simp [flushMessage, h]

theorem writeDown_streaming (w : World) (st : St) (b : Bytes) (h : st.rw.buf = none) :
    writeDown w st b = ({ st with sink := st.sink.write b }, false, false) := by
  simp [writeDown, h]

theorem writeDown_streaming' (w : World) (st : St) (b : Bytes) (h : st.rw.buf = none) :
    writeDown w st b = ({ st with sink := st.sink.write b }, false, false) :=
  writeDown_streaming w st b h

/-- **A response message converted by the transforming writer is on the wire when `Write`
    returns**: if `flushMessage` of the writer succeeds on a data message for a streaming client,
    then everything written to the client so far - this message included - has been flushed. -/
theorem twFlushMessage_forwards (w : World) (tb : Tables) (st st' : St) (t t' : TW)
    (hb : st.rw.buf = none) (hd : t.latest.trailer = false)
    (h : twFlushMessage w tb st t = (st', t', none, false)) :
    st'.sink.flushedN = some st'.sink.items.length := by
  revert h
  fun_cases twFlushMessage w tb st t
  case case1 ht _ _ _ _ _ | case2 ht _ _ _ _ _ => rw [hd] at ht; cases ht
  case case3 | case5 => nofun       -- the message does not convert; it does not go out
  case case4 hbad =>       -- its envelope does not go out
    intro h
    simp only [Prod.mk.injEq] at h
    rw [h.2.2.1, h.2.2.2] at hbad; cases hbad
  case case6 =>
    -- envelope and message went to the client, which streams: they are flushed
    intro h
    rw [← (Prod.mk.inj h).1]
    have h1 := ((twEnvelope_cases ‹_ = (_, _, _, _)›).reach (G := False) nofun).1.hw.buf hb
    have h2 : HW _ (_, _, _).1 := ‹writeDown w _ _ = _› ▸ writeDown_hw w _ _
    exact flushMessage_streaming _ (h2.buf h1)

theorem trRead_served (w : World) (pl : HandlePlan) (fuel : Nat) (st : St) (r : TR) (n : Nat)
    (hwf : r.envRemain ≤ 5 ∧ r.env.length = 5)
    (h : 0 < r.envRemain ∨ (∃ buf, r.buffer = some buf ∧ buf ≠ [] ∧ 0 < n)) :
    (trRead w pl (fuel + 1) st r n).2.2.1 = st := by
  unfold trRead
  split
  · rfl
  by_cases hlt : n < r.envRemain
  · rw [if_pos hlt]
  rw [if_neg hlt]
  extract_lets envPart offset r0
  split
  rename_i b r' x
  -- the piece in hand is not empty, so the next message is not read
  rw [if_pos]
  rcases h with hp | ⟨buf, hbuf, hne, hn⟩
  · have : offset = r.envRemain := by simp only [offset, envPart, hp, if_true, List.length_drop, hwf.2]; omega
    omega
  · have hl := List.length_pos_iff.mpr hne
    simp only [r0, hbuf] at x
    split at x <;> cases x
    · simp only [List.length_take]; omega
    · omega

/-- **No look-ahead in the transforming reader**: a `Read` that can be answered from what is left
    of the current envelope or of the current converted message returns without touching the
    client's body (and without any other effect on the request state). -/
theorem trRead_no_lookahead (w : World) (pl : HandlePlan) (fuel : Nat) (st : St) (r : TR) (n : Nat)
    (he : r.err = none) (hwf : r.envRemain ≤ 5 ∧ r.env.length = 5)
    (h : 0 < r.envRemain ∨ (∃ buf, r.buffer = some buf ∧ buf ≠ [] ∧ 0 < n)) :
    (trRead w pl (fuel + 1) st r n).2.2.1 = st :=
  trRead_served w pl fuel st r n hwf h

/-- The same for the re-enveloping reader while it is still handing out an envelope. -/
theorem erRead_envelope_no_pull (w : World) (st : St) (r : ER) (n : Nat)
    (he : r.err = none) (h : 0 < r.envRemain) : (erRead w st r n).2.2.1 = st := by
  unfold erRead
  simp [he, h]

/-- The reader of one re-enveloped message (`exactReader`) takes at most the announced number of
    bytes from the client's body ... -/
theorem limited_never_exceeds (w : World) (st : St) (k n : Nat) :
    (erCurRead w st (.limited k) n).1.length ≤ k := by
  simp only [erCurRead]
  by_cases hk : (k == 0) = true
  · rw [if_pos hk]; exact Nat.zero_le k
  · rw [if_neg hk]; exact Nat.le_trans (Source.read_spec rfl).2.2.1 (Nat.min_le_right n k)

/-- ... and once the message is exhausted it does not touch the body at all: the next message is
    read only when the handler asks for more. -/
theorem limited_exhausted_no_pull (w : World) (st : St) (n : Nat) :
    erCurRead w st (.limited 0) n = ([], some .eof, st, .limited 0, false) := by
  simp [erCurRead]

/-- Everything written to a streaming client is on the wire (nothing is claimed while the whole
    response is being buffered for a client whose outcome must precede the body). -/
def AllFlushed (st : St) : Prop := st.rw.buf = none → st.sink.flushedN.getD 0 = st.sink.items.length

theorem flush_allFlushed (st : St) (rw : RW) : AllFlushed { st with sink := st.sink.flush, rw := rw } := by
  intro _; simp [Sink.flush]

variable {w : World} {tb : Tables} {st : St}

theorem reportEnd_keeps {e : RespEnd} {r} (hx : reportEnd w st e = r) (h : AllFlushed st) : AllFlushed r.1 := by
  subst hx
  unfold reportEnd
  by_cases hend : st.rw.endWritten = true
  · rw [if_pos hend]; exact h
  · rw [if_neg hend]; exact flush_allFlushed _ _

theorem reportError_keeps {err : Err} {r} (hx : reportError w st err = r) (h : AllFlushed st) : AllFlushed r.1 := by
  obtain ⟨e, he, _⟩ := reportError_eq w st err
  exact reportEnd_keeps (he ▸ hx) h

theorem handleEndMessage_keeps {c : Bool} {d : Bytes} {rep : Bool} {r} (hx : handleEndMessage w tb st c d rep = r)
    (h : AllFlushed st) : AllFlushed r.1 := by
  subst hx
  fun_cases handleEndMessage w tb st c d rep
  · exact reportError_keeps rfl h
  · exact h
  · exact reportError_keeps rfl h
  · exact reportEnd_keeps rfl h

theorem flushMessage_allFlushed (st : St) : AllFlushed (flushMessage st) := by
  fun_cases flushMessage st
  · intro hb; simp_all
  · exact flush_allFlushed st st.rw

/-- A write fails only on the whole-response buffer (size limit), and then the error has been
    reported: whatever was written before, nothing is unflushed. -/
theorem writeDown_failed_allFlushed {b : Bytes} {r} (hx : writeDown w st b = r) (hbad : (r.2.1 || r.2.2) = true) :
    AllFlushed r.1 := by
  subst hx
  revert hbad
  fun_cases writeDown w st b with
  | case1 _ hb => exact fun _ => reportError_keeps ‹_› fun hn => by rw [hb] at hn; cases hn
  | _ => nofun

/-- `transformingWriter.flushMessage` returns either before anything went down, or after a write that
    failed, or after the flush that follows the message. -/
theorem twFlushMessage_keeps {t : TW} {r} (hx : twFlushMessage w tb st t = r) (h : AllFlushed st) : AllFlushed r.1 := by
  subst hx
  fun_cases twFlushMessage w tb st t
  case case1 => exact handleEndMessage_keeps ‹_› h
  case case2 => exact handleEndMessage_keeps ‹_› h
  case case3 => exact h
  case case4 x hbad =>
    -- the envelope did not go out: the message is too large (nothing was written) or the write failed
    cases twEnvelope_cases x with
    | tooLong | noEnvelopes => exact h
    | sent hd => exact writeDown_failed_allFlushed hd (by simpa using hbad)
  case case5 => exact writeDown_failed_allFlushed ‹_› ‹_›
  case case6 => exact flushMessage_allFlushed _

theorem twLoop_keeps {fuel : Nat} {t : TW} {data : Bytes} {r} (hx : twLoop w tb fuel st t data = r) (h : AllFlushed st) :
    AllFlushed r.1 := by
  subst hx
  fun_induction twLoop w tb fuel st t data
  -- an envelope is complete: it is rejected, or the loop goes on in the same state
  case case5 => exact reportError_keeps ‹_› h
  case case6 => exact reportError_keeps ‹_› h
  case case7 ih => exact ih h
  -- a message is complete: `twFlushMessage`, then an error is reported, or the loop goes on
  case case9 => exact twFlushMessage_keeps ‹_› h
  case case10 => have h1 := twFlushMessage_keeps ‹_› h; exact reportError_keeps ‹_› h1
  case case11 => exact twFlushMessage_keeps ‹_› h
  case case12 ih => exact ih (twFlushMessage_keeps ‹_› h)
  -- the other paths return the state they were given
  all_goals exact h

/-- **Whole `Write` calls of the transforming writer**: whatever the backend writes - any number of
    messages, split anywhere, well-formed or not, errors included - when the call returns everything
    that was written to a streaming client has been flushed. -/
theorem twWrite_keeps (w : World) (tb : Tables) (st : St) (t : TW) (data : Bytes) (h : AllFlushed st) :
    AllFlushed (twWrite w tb st t data).1 := by
  fun_cases twWrite w tb st t data
  · exact h
  · exact reportError_keeps ‹_› h
  · exact h
  · exact twLoop_keeps rfl h

/-- Between messages (the writer collects the next envelope) everything written to a streaming client is flushed. -/
def FlushedAtBoundary (st : St) (e : EW) : Prop :=
  st.rw.buf = none → e.writingEnvelope = true → st.sink.flushedN.getD 0 = st.sink.items.length

/-- The re-framing writer: flushed between messages; a writer that was never used sits on a response
    of which nothing is unflushed. -/
def EwOk (st : St) (e : EW) : Prop :=
  FlushedAtBoundary st e ∧ (e.initialized = false → AllFlushed st ∧ e.writingEnvelope = false)

theorem boundary_vacuous {e : EW} (h : ¬e.writingEnvelope = true) : FlushedAtBoundary st e :=
  fun _ hw => absurd hw h

/-- Inside an envelope a piece goes to the writer's own buffer; outside one the claim is vacuous. -/
theorem ewWritePiece_boundary {e : EW} {piece : Bytes} {r} (hx : ewWritePiece w st e piece = r)
    (h : FlushedAtBoundary st e) : FlushedAtBoundary r.1 r.2.1 := by
  subst hx
  fun_cases ewWritePiece w st e piece
  case case1 => exact h
  all_goals exact boundary_vacuous ‹_›

theorem ewEnvelopeWritten_boundary {e : EW} {r} (hx : ewEnvelopeWritten w st e = r) : FlushedAtBoundary r.1 r.2.1 :=
  boundary_vacuous (ne_true_of_eq_false (hx ▸ C11.ewEnvelopeWritten_not_writing w st e))

theorem ewLoop_flushed_at_boundaries {n : Nat} {e : EW} {data : Bytes} {r} (hx : ewLoop w tb n st e data = r)
    (h : FlushedAtBoundary st e) : FlushedAtBoundary r.1 r.2.1 := by
  subst hx
  fun_induction ewLoop w tb n st e data
  case case1 => exact h
  case case2 => exact h
  -- a piece of an envelope or of a message
  case case3 => have h1 := ewWritePiece_boundary ‹_› h; exact h1
  case case4 => have h1 := ewWritePiece_boundary ‹_› h; exact h1
  -- an envelope is complete: a message follows
  case case5 => have h1 := ewEnvelopeWritten_boundary ‹_›; exact h1
  case case6 ih => have h1 := ewEnvelopeWritten_boundary ‹_›; exact ih h1
  -- a message is complete: flush, then wait for the next envelope
  case case11 ih => exact ih fun hb _ => flushMessage_allFlushed _ hb
  -- the end-of-stream message is complete: no envelope is being collected
  case case9 ih => exact ih (boundary_vacuous ‹_›)
  all_goals exact boundary_vacuous ‹_›

theorem ewInit_boundary {e : EW} {r} (hx : ewInit w st e = r) (h : EwOk st e) : FlushedAtBoundary r.1 r.2.1 := by
  subst hx
  fun_cases ewInit w st e
  case case1 => exact h.1
  -- the backend's protocol has envelopes: the writer starts between messages
  case case2 hi _ _ => exact fun hb _ => (h.2 (by simpa using hi)).1 hb
  all_goals exact boundary_vacuous (ne_true_of_eq_false (h.2 (by simpa using ‹¬e.initialized = true›)).2)

theorem ewWrite_ewOk (w : World) (tb : Tables) (st : St) (e : EW) (data : Bytes) (h : EwOk st e) :
    EwOk (ewWrite w tb st e data).1 (ewWrite w tb st e data).2.1 := by
  refine ⟨?_, fun hi => by rw [ewWrite_initialized] at hi; cases hi⟩
  fun_cases ewWrite w tb st e data <;> have h1 := ewInit_boundary ‹_› h
  · exact h1
  · exact h1
  · have h2 := ewWritePiece_boundary ‹_› h1; exact h2
  · exact ewLoop_flushed_at_boundaries rfl h1

/-- **Whole `Write` calls of the re-framing writer** (a writer that was never used starts on a response
    of which nothing is unflushed): between messages everything is flushed. -/
theorem ewWrite_flushed_at_boundaries (w : World) (tb : Tables) (st : St) (e : EW) (data : Bytes)
    (hJ : FlushedAtBoundary st e) (h0 : e.initialized = false → AllFlushed st ∧ e.writingEnvelope = false) :
    FlushedAtBoundary (ewWrite w tb st e data).1 (ewWrite w tb st e data).2.1 :=
  (ewWrite_ewOk w tb st e data ⟨hJ, h0⟩).1

/-- The claim holds when the backend starts writing (nothing written, nothing flushed). -/
example (st : St) (h : st.sink = {}) : AllFlushed st := by intro _; simp [h]

/-- "Nothing complete is held back" in a state of the response writer. -/
def Prog (st : St) : Prop :=
  match st.rw.w with
  | .enveloping e => EwOk st e
  | _ => AllFlushed st

/-- The invariant of a run: before `WriteHeader` nothing is buffered and no body writer exists; while
    the RPC is open nothing complete is held back. -/
structure ProgInv (st : St) : Prop where
  fresh : st.rw.headersWritten = false → st.rw.buf = none ∧ st.rw.w = .unset
  prog : st.rw.endWritten = false → Prog st

/-- `Prog` reads the state through the installed writer and `AllFlushed` only. -/
theorem Prog.mono {a b : St} (hwk : b.rw.w = a.rw.w) (haf : AllFlushed a → AllFlushed b) (h : Prog a) : Prog b := by
  unfold Prog at h ⊢
  rw [hwk]
  revert h
  split
  · exact fun h => ⟨fun hb hw => haf (fun hb' => h.1 hb' hw) hb, fun hi => ⟨haf (h.2 hi).1, (h.2 hi).2⟩⟩
  · exact haf

theorem Prog.enveloping {e : EW} (h : EwOk st e) : Prog (rwSetWriter st (.enveloping e)) := by
  unfold Prog rwSetWriter; exact h

theorem Prog.other {k : WK} (hk : ∀ e, k ≠ .enveloping e) (h : AllFlushed st) : Prog (rwSetWriter st k) := by
  unfold Prog rwSetWriter
  split
  · rename_i e he; exact absurd he (hk e)
  · exact h

theorem Prog.fresh (c : Bool) (haf : AllFlushed st) :
    Prog (rwSetWriter st (if c then .enveloping {} else .transforming {})) := by
  cases c
  · exact Prog.other (fun _ => WK.noConfusion) haf
  · exact Prog.enveloping ⟨boundary_vacuous Bool.false_ne_true, fun _ => ⟨haf, rfl⟩⟩

theorem ProgInv.of_hw {a b : St} (h : ProgInv a) (hf : HW a b) (haf : AllFlushed a → AllFlushed b) : ProgInv b := by
  refine ⟨fun hh => ?_, fun ho => (h.prog (hf.open ho)).mono hf.wk haf⟩
  have := h.fresh (hf.hw ▸ hh)
  exact ⟨hf.buf this.1, hf.wk.trans this.2⟩

theorem reportError_prog (w : World) (st : St) (err : Err) (h : ProgInv st) : ProgInv (reportError w st err).1 :=
  h.of_hw (reportError_hw w st err) (reportError_keeps rfl)

theorem AllFlushed.of_neutral {a b : St} (h : AllFlushed a) (s : Neutral a b) : AllFlushed b := by
  unfold AllFlushed at *
  rw [s.sink, s.buf]; exact h

theorem ProgInv.of_neutral {a b : St} (h : ProgInv a) (s : Neutral a b) : ProgInv b :=
  ⟨fun hh => (h.fresh (s.written ▸ hh)).imp (s.buf.trans ·) (s.wk.trans ·),
   fun ho => (h.prog (s.ended ▸ ho)).mono s.wk (·.of_neutral s)⟩

theorem setHdr_hw (st : St) (h : Hdr) : (st.setHdr h).rw = st.rw := (St.setHdr_frame st h).1

/-- Flushing the head of a response that is not being buffered: either the RPC ends with it, or
    nothing is added to the body. -/
theorem flushHeaders_open (w : World) (st : St) (hb : st.rw.buf = none) (haf : AllFlushed st) :
    (flushHeaders w st).1.rw.endWritten = false → AllFlushed (flushHeaders w st).1 := by
  fun_cases flushHeaders w st
  case case1 => exact fun _ => haf
  case case2 => exact fun _ => haf
  case case3 =>
    rename_i cli k code _ _ sink s1 s2 x
    have hi := (addResponseHeaders_items st.op.cform cli st.sink).1
    have hn := (addResponseHeaders_frame st.op.cform cli st.sink).2.2.1
    rw [x] at hi hn
    unfold s2
    split
    · intro h; simp [writeEnd] at h
    · intro _ _
      have hk : (k.writeHeader code).items = k.items ∧ (k.writeHeader code).flushedN = k.flushedN := by
        unfold Sink.writeHeader; split <;> exact ⟨rfl, rfl⟩
      simp only [s1, sink, hb]
      rw [hk.1, hk.2, hi, hn]
      exact haf hb

theorem flushHeaders_hw' (w : World) (st : St) : (flushHeaders w st).1.rw.headersWritten = st.rw.headersWritten :=
  (flushHeaders_hw w st).hw

/-- Where a first `WriteHeader` on an open response answers, nothing is buffered and all is flushed: there was no
    body writer yet. -/
theorem prepared_prog {c : Nat} {s : St} (h : ProgInv st) (p : Prepared tb c st s) :
    ProgInv s ∧ s.rw.buf = none ∧ AllFlushed s := by
  have n := p.neutral
  have hf := h.fresh p.before.1
  have h0 : ProgInv { st with rw := { st.rw with headersWritten := true, statusCode := c } } := ⟨nofun, h.prog⟩
  have h1 := h0.of_neutral n
  refine ⟨h1, n.buf.trans hf.1, ?_⟩
  have hs := h1.prog (n.ended.trans p.before.2)
  unfold Prog at hs
  rw [n.wk.trans hf.2] at hs
  exact hs

theorem rwWriteHeader_prog (w : World) (tb : Tables) (st : St) (c : Nat) (h : ProgInv st) :
    ProgInv (rwWriteHeader w tb st c).1 := by
  refine ⟨fun hh => ?_, ?_⟩
  · rw [rwWriteHeader_written] at hh; cases hh
  have hp := rwWriteHeader_path w tb st c
  generalize rwWriteHeader w tb st c = r at hp
  cases hp with
  | again => exact h.prog
  | ended he => exact fun ho => absurd (he.symm.trans ho) nofun
  | error p => exact (reportError_prog w _ _ (prepared_prog h p).1).prog
  | errorBody _ p => exact fun _ => Prog.other (fun _ => WK.noConfusion) (prepared_prog h p).2.2
  | trailersOnly p =>
    obtain ⟨_, hb, haf⟩ := prepared_prog h p
    exact fun ho => Prog.other (fun _ => WK.noConfusion) (flushHeaders_open w _ hb haf ho)
  | buffered => exact fun _ => Prog.fresh _ nofun
  | streaming p =>
    obtain ⟨_, hb, haf⟩ := prepared_prog h p
    exact fun ho => Prog.fresh _ (flushHeaders_open w _ hb haf ho)

/-- After `WriteHeader`, a step `a → b` below `responseWriter`, followed by storing the writer `k`
    it returned, keeps the invariant if it keeps `Prog`. -/
theorem ProgInv.store {a b : St} {k : WK} (h : ProgInv a) (hW : a.rw.headersWritten = true) (hf : HW a b)
    (hp : Prog a → Prog (rwSetWriter b k)) : ProgInv (rwSetWriter b k) :=
  ⟨fun hh => Bool.noConfusion ((hf.hw.trans hW).symm.trans hh),
   fun ho => hp (h.prog (hf.open ho))⟩

theorem rwWrite_prog (w : World) (tb : Tables) (st : St) (data : Bytes) (h : ProgInv st) :
    ProgInv (rwWrite w tb st data).1 := by
  have hP := rwWriteHeader_prog w tb st 200 h
  have hW := rwWriteHeader_written w tb st 200
  -- `fun_cases` names the implicit `WriteHeader` as the `if` it is in the model: state `hP`, `hW` about that term
  rw [← implicitHeader_eq] at hP hW
  fun_cases rwWrite w tb st data with
  | case3 r0 _ _ e hw =>
    refine hP.store hW (ewWrite_hw w tb r0.1 e data) fun P0 => ?_
    unfold Prog at P0
    rw [hw] at P0
    exact Prog.enveloping (ewWrite_ewOk w tb r0.1 e data P0)
  | case4 r0 _ _ t hw =>
    refine hP.store hW (twWrite_hw w tb r0.1 t data) fun P0 => ?_
    unfold Prog at P0
    rw [hw] at P0
    exact Prog.other (fun _ => WK.noConfusion) (twWrite_keeps w tb r0.1 t data P0)
  | case6 => exact reportError_prog w _ _ hP
  | case7 r0 _ _ _ _ _ hw =>
    -- the error body grows in the writer, nothing goes to the client
    refine hP.store hW (HW.refl _) fun P0 => ?_
    unfold Prog at P0
    rw [hw] at P0
    exact Prog.other (fun _ => WK.noConfusion) P0
  | _ => exact hP      -- the other paths return the state the implicit `WriteHeader` left

/-- **Every handler script keeps the invariant**: after any sequence of reads (any sizes), header
    changes, `WriteHeader`, `Write` (any bytes, split anywhere), `Flush` and `Close` calls. -/
theorem runScript_prog (w : World) (tb : Tables) (pl : HandlePlan) (script : List BOp) (total0 : Nat) (f : Flight)
    (h : ProgInv f.st) : ProgInv (runScript w tb pl script total0 f).1.st :=
  runScript_inv_st (fun n h => h.of_neutral n) (reportError_prog w) (rwWriteHeader_prog w tb)
    (rwWrite_prog w tb) script total0 f h

theorem start_prog (st : St) (skip : Bool) (hrw : st.rw = {}) (hs : st.sink.items = [] ∧ st.sink.flushedN = none) :
    ProgInv (transcodeStartState st skip) := by
  refine ProgInv.of_neutral ⟨fun _ => ?_, fun _ => ?_⟩ (transcodeStartState_neutral st skip)
  · simp [hrw]
  · unfold Prog
    simp only [hrw]
    intro _; simp [hs.1, hs.2]

/-- **C16, response direction, whole runs.**  Take any backend handler: any sequence of reads of the
    request, header changes, `WriteHeader`, `Write` calls with any bytes split anywhere, `Flush` and
    `Close`, stopped at any point.  While the RPC has not ended and the client's protocol streams
    (the response is not being collected because its end must precede its body):
    * on the re-encoding path everything written towards the client has been flushed;
    * on the re-framing path everything has been flushed whenever the writer is between messages,
      so a message is on the wire when the `Write` that completed it returns. -/
theorem nothing_complete_is_held_back (w : World) (tb : Tables) (pl : HandlePlan) (script : List BOp) (total0 : Nat)
    (st : St) (skip : Bool) (rd : Reader) (hrw : st.rw = {}) (hs : st.sink.items = [] ∧ st.sink.flushedN = none) :
    let st' := (runScript w tb pl script total0 { st := transcodeStartState st skip, rd := rd }).1.st
    st'.rw.endWritten = false → st'.rw.buf = none →
      match st'.rw.w with
      | .enveloping e => e.writingEnvelope = true → st'.sink.flushedN.getD 0 = st'.sink.items.length
      | _ => st'.sink.flushedN.getD 0 = st'.sink.items.length := by
  intro st' ho hb
  have hp : Prog st' := (runScript_prog w tb pl script total0 _ (start_prog st skip hrw hs)).prog ho
  unfold Prog at hp
  revert hp
  split
  · exact fun hp => hp.1 hb
  · exact fun hp => hp hb

/-- The same for the handler as `ServeHTTP` runs it: the state `serveTranscode` hands to the handler
    script satisfies the premises. -/
theorem serve_handler_makes_progress (w : World) (sc : Scenario) (o : Op) (st : St) (first : Option (Bytes × Bool))
    (hpre : transcodePre w o (o.plan w) { op := o, src := sc.src, sink := {} } = .ok (st, first))
    (script : List BOp) (skip : Bool) (rd : Reader) :
    let st' := (runScript w sc.tables (o.plan w) script sc.src.left { st := transcodeStartState st skip, rd := rd }).1.st
    st'.rw.endWritten = false → st'.rw.buf = none →
      match st'.rw.w with
      | .enveloping e => e.writingEnvelope = true → st'.sink.flushedN.getD 0 = st'.sink.items.length
      | _ => st'.sink.flushedN.getD 0 = st'.sink.items.length := by
  have hf := transcodePre_fresh w o (o.plan w) _ st first hpre
  exact nothing_complete_is_held_back w sc.tables (o.plan w) script sc.src.left st skip rd hf.1 (by rw [hf.2]; exact ⟨rfl, rfl⟩)

/-- **The re-framing reader holds back nothing but (part of) one envelope**, whatever the handler's read
    sizes and however the client's body arrives: after any sequence of successful reads, the bytes given
    to the handler plus the (at most five) envelope bytes prepared for the backend but not yet handed
    out plus what is left of the client's body add up to what there was at the start.  Since the
    re-framed stream has one envelope per client envelope and the payloads unchanged, this says that
    no byte of message `k+1` is taken from the client before message `k` has been handed to the backend
    completely - beyond the five bytes of its envelope. -/
theorem reframing_reader_holds_back_nothing (w : World) (ce se : Enveloper) (st st' : St) (r r' : ER) (ns : List Nat) (o : Bytes)
    (hce : st.op.clientEnveloper = some ce) (hse : st.op.serverEnveloper = some se) (hwf : r.WF) (herr : r.err = none)
    (h : EOkReads w st r ns o st' r') :
    o.length + r'.pending.length + st'.src.data.length = r.pending.length + st.src.data.length ∧ r'.pending.length ≤ 5 := by
  induction h with
  | nil st r =>
    refine ⟨by simp, ?_⟩
    rw [pending_length r hwf]
    by_cases h : r.envRemain > 0
    · exact (hwf.env h).1
    · omega
  | cons st r n ns b s1 r1 p o st' r' hn hrd _ ih =>
    have hs := erRead_step w ce se st r n hn hce hse hwf herr
    have hc := erRead_conserves w ce se st r n hn hce hse hwf herr
    rw [hrd] at hs hc
    obtain ⟨hwf1, herr1, hop1, _⟩ := hs.2.1 rfl
    simp only at hwf1 herr1 hop1
    obtain ⟨i1, i2⟩ := ih (by rw [hop1]; exact hce) (by rw [hop1]; exact hse) hwf1 herr1
    have := hc rfl
    simp only at this
    refine ⟨?_, i2⟩
    rw [List.length_append]
    omega

/-! ### the specification predicates are not vacuous -/

/-- Backend wrote two complete messages, the client's body has both, only the first is flushed:
    rejected.  Both flushed: accepted. -/
example : Spec.respStepOk [0,0,0,0,1,7, 0,0,0,0,1,8] 0 [(6, 0), (12, 0)] 0 6 = false := by decide
example : Spec.respStepOk [0,0,0,0,1,7, 0,0,0,0,1,8] 0 [(6, 0), (12, 0)] 0 12 = true := by decide
/-- The handler has message 1 (6 bytes in the backend's framing); the transcoder took 12 bytes, i.e.
    also the client's second message: rejected. -/
example : Spec.reqStepOk [6, 12] [6, 12] 12 6 12 = false := by decide
example : Spec.reqStepOk [6, 12] [6, 12] 12 6 6 = true := by decide

end Vanguard.C16
