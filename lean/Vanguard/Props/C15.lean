import Vanguard.Model.Pool
import Vanguard.Model.Run
import Vanguard.Gen.Facts
import Vanguard.Lemmas.List
/-!
  # C15 — the outcome of an RPC is independent of earlier traffic

  The end-to-end model `serve` (`Model/Run`) is a function of the configuration, the request and
  the backend script: it has no state that survives a request.  The real `Transcoder` does keep
  state between requests - pooled buffers and pooled stateful (de)compressors.  The theorems below
  are about the model of exactly that state (`Model/Pool`): whatever earlier traffic did to the
  pools, a buffer taken from the pool behaves like a new one and a pooled (de)compressor computes
  the pure function the end-to-end model uses.  That is the refinement step which justifies the
  history-free end-to-end model; the correspondence for it is the `history` stream (every request is
  served by a long-lived Transcoder and by a fresh one; both must equal the model's result).
-/
namespace Vanguard.C15

theorem get_data_nil (p : Pool) (pick : Option Nat) : (p.get pick).1.data = [] := by
  fun_cases Pool.get p pick <;> rfl

/-- The operations vanguard performs on a buffer see its contents only, never the garbage behind
    them. -/
theorem ops_data_congr (ops : List BufOp) : ∀ (b1 b2 : Buf), b1.data = b2.data →
    (ops.foldl Buf.apply b1).data = (ops.foldl Buf.apply b2).data := by
  induction ops with
  | nil => intro b1 b2 h; exact h
  | cons op rest ih =>
    intro b1 b2 h
    simp only [List.foldl_cons]
    apply ih
    cases op with
    | write x => simp [Buf.apply, Buf.write, h]
    | reset => simp [Buf.apply, Buf.reset]
    | truncate n => simp [Buf.apply, Buf.truncate, h]

/-- **After any history of gets, puts (of buffers with any contents, any capacity) and collections,
    a buffer obtained from the pool is indistinguishable from a newly allocated one**, for every
    sequence of buffer operations and every choice the runtime makes. -/
theorem pooled_buffer_like_fresh (history : List PoolOp) (pick : Option Nat) (ops : List BufOp) :
    (ops.foldl Buf.apply ((history.foldl Pool.step {}).get pick).1).data
      = (ops.foldl Buf.apply ({} : Buf)).data :=
  ops_data_congr ops _ _ (get_data_nil _ _)

/-- Over-sized buffers never enter the pool (`maxRecycleBufferSize`). -/
theorem put_bounded (p : Pool) (b : Buf) (h : ∀ x ∈ p.items, x.cap ≤ maxRecycle) :
    ∀ x ∈ (p.put b).items, x.cap ≤ maxRecycle := by
  unfold Pool.put
  split
  · exact h
  · intro x hx
    simp only [List.mem_cons] at hx
    rcases hx with rfl | hx
    · omega
    · exact h x hx

/-- **A pooled compressor computes the pure function**, whatever state its previous user left it
    in (half-written input, closed or not). -/
theorem pooledCompress_pure (f : Bytes → Bytes) (c : Comp) (src : Bytes) :
    (pooledCompress f c src).1 = f src := by
  simp [pooledCompress]

/-- A chain of compressions on one pooled compressor: the k-th output depends on the k-th input
    only. -/
def compressChain (f : Bytes → Bytes) : Comp → List Bytes → List Bytes
  | _, [] => []
  | c, src :: rest => let r := pooledCompress f c src; r.1 :: compressChain f r.2 rest

theorem compressChain_pure (f : Bytes → Bytes) (srcs : List Bytes) : ∀ c : Comp,
    compressChain f c srcs = srcs.map f := by
  induction srcs with
  | nil => intro c; rfl
  | cons s rest ih => intro c; simp [compressChain, pooledCompress_pure, ih]

/-- The pure decompression with a limit that the end-to-end model uses (`Model/Serve`). -/
def pureDecompress (g : Bytes → Option Bytes) (src : Bytes) (limit : Nat) : Except DecompErr Bytes :=
  match g src with
  | none => .error .corrupt
  | some all => if all.length > limit then .error .limit else .ok all

/-- **A pooled decompressor computes the pure function**, also right after a use that failed on
    corrupt data or was cut short by the limit. -/
theorem pooledDecompress_pure (g : Bytes → Option Bytes) (d : Decomp) (src : Bytes) (limit : Nat) :
    (pooledDecompress g d src limit).1 = pureDecompress g src limit := by
  unfold pooledDecompress pureDecompress
  cases g src with
  | none => rfl
  | some all =>
    simp only
    by_cases h : all.length > limit
    · have : (all.take (limit + 1)).length > limit := by simp [List.length_take]; omega
      rw [if_pos this, if_pos h]
    · have h1 : all.take (limit + 1) = all := List.take_of_length_le (by omega)
      rw [h1, if_neg h, if_neg h]

/-- ... and that pure function is the one the end-to-end model calls (`decompressLimited`). -/
theorem pooledDecompress_refines_model (w : World) (z : Bytes) (d : Decomp) (src : Bytes) (limit : Nat) :
    (match (pooledDecompress (w.decompress z) d src limit).1 with
      | .ok r => Except.ok r
      | .error .corrupt => Except.error Err.other
      | .error .limit => Except.error (Err.rpc 8)) = decompressLimited w z src limit := by
  rw [pooledDecompress_pure]
  unfold pureDecompress decompressLimited
  cases w.decompress z src with
  | none => rfl
  | some all =>
    simp only
    by_cases h : all.length > limit
    · rw [if_pos h, if_pos h]
    · rw [if_neg h, if_neg h]

def decompressChain (g : Bytes → Option Bytes) : Decomp → List (Bytes × Nat) → List (Except DecompErr Bytes)
  | _, [] => []
  | d, (src, limit) :: rest =>
    let r := pooledDecompress g d src limit
    r.1 :: decompressChain g r.2 rest

/-- Any sequence of decompressions - valid, corrupt, over the limit - on one pooled decompressor:
    each result depends on its own input only. -/
theorem decompressChain_pure (g : Bytes → Option Bytes) (reqs : List (Bytes × Nat)) : ∀ d : Decomp,
    decompressChain g d reqs = reqs.map fun r => pureDecompress g r.1 r.2 := by
  induction reqs with
  | nil => intro d; rfl
  | cons r rest ih =>
    intro d
    obtain ⟨src, limit⟩ := r
    simp [decompressChain, pooledDecompress_pure, ih]

/-- The end-to-end model of a Transcoder serving a history and then a probe: by construction the
    probe's observation does not mention the history (the Transcoder is immutable after
    `NewTranscoder` apart from the pools treated above). -/
def serveAfter (w : World) (_history : List Scenario) (probe : Scenario) : Obs := serve w probe

theorem serveAfter_fresh (w : World) (history : List Scenario) (probe : Scenario) :
    serveAfter w history probe = serveAfter w [] probe := rfl

/-- Non-vacuity: a pool that really holds a dirty buffer, and a compressor with pending input. -/
example : ((({} : Pool).put { data := [1, 2, 3], stale := [9] }).get (some 0)).1 = { data := [], stale := [1, 2, 3, 9] } := by
  decide
example : (pooledCompress (rleCompress 0x5A) { pending := [7, 7, 7], ready := false } [1, 1]).1 = [0x5A, 2, 1] := by
  decide
example : (pooledDecompress (rleDecompress 0x5A) { out := [5], bad := true } [0x5A, 3, 8] 2).1 = .error .limit := by
  rfl


/-- The recycling bound of the pool model is the constant in `buffers.go` as the source reads now
    (regenerated by `/verif/extract` on every run). -/
theorem source_recycle_bound_is_model : Gen.maxRecycleBufferSize = maxRecycle := by decide

end Vanguard.C15
