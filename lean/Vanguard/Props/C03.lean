import Vanguard.Lemmas.Outcome
import Vanguard.Lemmas.RespHeaders
import Vanguard.Lemmas.WellFramed
import Vanguard.Lemmas.ReframeSplit
/-!
  C03 — Client gets a valid response in its own protocol with exactly one outcome.

  Proved here, for the model of `Transcoder.ServeHTTP` (`serve`), every world (codecs, compressors),
  configuration, request, client body (any chunking, any end) and backend handler script (any sequence
  of reads, header changes, `WriteHeader`, `Write`, `Flush`, `Close`; well-formed or not):

  * **at most one end** (`at_most_one_end`): what the client receives contains at most one terminal
    disposition - end-of-stream frames and error bodies in the body, a gRPC status in the headers
    and a gRPC status in the trailers are counted together (`Sink.endMarks`), so success and error
    are never both signalled and no second end follows the first;
  * **the end is last** (`end_is_last`): an end-of-stream frame or error body is the last item of
    the body, no message data follows it;
  * **nothing after the end** (`nothing_after_the_end`, `write_after_end_is_dropped`,
    `close_after_end_changes_nothing`): once the end is written, no handler action - more writes,
    reads that fail and report errors, header changes, closing - changes anything the client can
    observe (status, headers as sent, live headers/trailers, body items, recorded status);
  * **at least one end** (`completed_rpc_has_end`, `reported_error_ends`): when `ServeHTTP` returns
    without a panic the end has been written, and every reported error ends the RPC;
  * the invariant behind them (`Good`) holds initially and is kept by every step
    (`script_keeps_good`, `close_keeps_good`).

  The validity of the rendered response in the client's protocol (content type, envelope framing,
  compression flags, Content-Length) is the oracle `oracleC03`, evaluated on every implementation
  observation, and the model's responses are compared with the implementation's byte for byte.
  **Well-formed envelopes** (`WellFramed`: five-byte envelopes with flag 0 or 1 and a big-endian length, each
  followed by exactly as many payload bytes) are proved for what a streaming client receives for a well-formed
  backend stream: on the re-framing path for every split of the backend's output across `Write` calls
  (`reframed_response_is_well_framed`), on the re-encoding path for the whole stream in one `Write`
  (`converted_response_is_well_framed`; pieces: C08).
  Partial: that the model's full response always satisfies `oracleC03` (content type, compression flags
  against bytes, Content-Length, malformed backend output) is not a theorem.
-/
namespace Vanguard.C03

/-- Only the first reported end counts: exactly one terminal disposition. -/
theorem end_reported_once (w : World) (st : St) (e : RespEnd) (h : st.rw.endWritten = true) :
    reportEnd w st e = (st, false) := reportEnd_ended w st e h

/-- Errors after the end are ignored as well (cascading errors cannot add a second outcome). -/
theorem error_after_end_ignored (w : World) (st : St) (err : Err) (h : st.rw.endWritten = true) :
    (reportError w st err).1 = st := by
  obtain ⟨e, he, _⟩ := reportError_eq w st err
  rw [he, reportEnd_ended w st e h]

theorem head_flushed_once (w : World) (st : St) (h : st.rw.headersFlushed = true) :
    flushHeaders w st = (st, false) := flushHeaders_flushed w st h

theorem write_end_marks_end (st : St) (e : RespEnd) (b : Bool) : (writeEnd st e b).rw.endWritten = true := by
  unfold writeEnd; rfl

theorem good_start (o : Op) (src : Source) : Good { op := o, src := src, sink := {} } := good_init o src

theorem script_keeps_good (w : World) (tb : Tables) (pl : HandlePlan) (script : List BOp) (total0 : Nat) (f : Flight)
    (h : Good f.st) : Good (runScript w tb pl script total0 f).1.st :=
  (runScript_ev w tb pl script total0 f h).1

theorem close_keeps_good (w : World) (tb : Tables) (st : St) (h : Good st) : Good (rwClose w tb st).1 :=
  (rwClose_ev w tb st h).1

/-- **Nothing after the end.** Once the end of the RPC is written, no handler script changes what
    the client observes. -/
theorem nothing_after_the_end (w : World) (tb : Tables) (pl : HandlePlan) (script : List BOp) (total0 : Nat) (f : Flight)
    (h : Good f.st) (he : f.st.rw.endWritten = true) :
    SameWire f.st.sink (runScript w tb pl script total0 f).1.st.sink :=
  ((runScript_ev w tb pl script total0 f h).2 he).1

/-- A `Write` after the end reaches nobody. -/
theorem write_after_end_is_dropped (w : World) (tb : Tables) (st : St) (data : Bytes)
    (h : Good st) (he : st.rw.endWritten = true) : SameWire st.sink (rwWrite w tb st data).1.sink :=
  ((rwWrite_ev w tb st data h).2 he).1

/-- Closing after the end adds nothing (no second end, no data). -/
theorem close_after_end_changes_nothing (w : World) (tb : Tables) (st : St)
    (h : Good st) (he : st.rw.endWritten = true) : SameWire st.sink (rwClose w tb st).1.sink :=
  ((rwClose_ev w tb st h).2 he).1

/-- **At most one end**, for every request, configuration, client body and backend behaviour. -/
theorem at_most_one_end (w : World) (sc : Scenario) : (serve w sc).sink.endMarks ≤ 1 := (serve_marks w sc).1

/-- **No message data follows the end**: an end-of-stream frame or error body, if the response has
    one, is the last item of the body. -/
theorem end_is_last (w : World) (sc : Scenario) : (serve w sc).sink.endLast := (serve_marks w sc).2

/-- **At least one end**: a `close` that returns has written the end. -/
theorem completed_rpc_has_end (w : World) (tb : Tables) (st : St) (h : (rwClose w tb st).2 = false) :
    (rwClose w tb st).1.rw.endWritten = true := rwClose_ends w tb st h

theorem reported_error_ends (w : World) (st : St) (err : Err) : (reportError w st err).1.rw.endWritten = true :=
  reportError_ends w st err

/-- **Re-framing path**: whatever the pieces in which a backend writes a sequence of legal frames, what is
    added to a streaming client's body is well framed in the client's dialect. -/
theorem reframed_response_is_well_framed (w : World) (tb : Tables) (se cc : Enveloper) (st : St) (fs : List Frame)
    (pieces : List Bytes) (hb : st.rw.buf = none) (hse : st.op.serverEnveloper = some se)
    (hcc : st.op.clientEnveloper = some cc) (hok : ∀ x ∈ fs, x.ok se st.op.conf.maxMsg)
    (hp : pieces.flatten = framesBytes fs) (hmax : st.op.conf.maxMsg < 4294967296) :
    ∃ st' e' out, ewWrites w tb st { initialized := true, writingEnvelope := true, remaining := 5 } pieces = (st', e', false, false) ∧
      rawBytes st'.sink.items = rawBytes st.sink.items ++ out ∧ WellFramed out := by
  obtain ⟨st', e', h1, h2⟩ := ewWrites_clean_stream w tb se cc st fs pieces hb hse hcc hok hp
  exact ⟨st', e', _, h1, h2, respReframedAll_wellFramed se cc _ hmax fs hok⟩

/-- **Re-encoding path**: a backend that writes a sequence of legal, convertible frames adds a well-framed
    sequence of messages to a streaming client's body. -/
theorem converted_response_is_well_framed (w : World) (tb : Tables) (se cc : Enveloper) (st : St) (fs : List Frame) (outs : Bytes)
    (hb : st.rw.buf = none) (hse : st.op.serverEnveloper = some se) (hcc : st.op.clientEnveloper = some cc)
    (hok : ∀ x ∈ fs, x.ok se st.op.conf.maxMsg) (hconv : respConvertedAll w st se cc fs = some outs)
    (hmax : st.op.conf.maxMsg < 4294967296) :
    rawBytes (twWrite w tb st {} (framesBytes fs)).1.sink.items = rawBytes st.sink.items ++ outs ∧ WellFramed outs :=
  ⟨(twWrite_clean_stream w tb se cc st fs outs hb hse hcc hok hconv).2.2.1,
   respConvertedAll_wellFramed w st se cc hmax fs outs hconv⟩

/-- `WellFramed` is not vacuous: a frame whose length field does not match its payload is rejected. -/
example : WellFramed [0, 0, 0, 0, 1, 7] := WellFramed.cons 0 0 0 0 1 [7] [] (Or.inl rfl) rfl WellFramed.nil
theorem wellFramed_inv {l : Bytes} (h : WellFramed l) :
    l = [] ∨ ∃ flag a b c d payload rest, l = flag :: a :: b :: c :: d :: (payload ++ rest) ∧
      fromBe32 a b c d = payload.length := by
  cases h with
  | nil => exact Or.inl rfl
  | cons flag a b c d payload rest hf hl hr => exact Or.inr ⟨flag, a, b, c, d, payload, rest, rfl, hl⟩
example : ¬ WellFramed [0, 0, 0, 0, 2, 7] := by
  intro h
  rcases wellFramed_inv h with h0 | ⟨flag, a, b, c, d, payload, rest, heq, hl⟩
  · cases h0
  · simp only [List.cons.injEq] at heq
    obtain ⟨_, ha, hb, hc, hd, htl⟩ := heq
    subst ha hb hc hd
    have h1 : (payload ++ rest).length = 1 := by rw [← htl]; rfl
    have h2 : payload.length = 2 := by rw [← hl]; rfl
    rw [List.length_append] at h1; omega

/-- The count is not vacuous: a body with two end-of-stream frames has two marks, a gRPC response
    with a status in the headers and another one in the trailers has two marks. -/
example : ({ items := [.raw [1], .endFrame 2 {}, .endFrame 2 {}] } : Sink).endMarks = 2 := by decide
example : ({ hdrEndSet := true, trailerEndSet := true } : Sink).endMarks = 2 := by decide
/-- `endLast` rejects data after an end frame. -/
example : ¬ ({ items := [.endFrame 2 {}, .raw [1]] } : Sink).endLast := by
  intro h; have := h (.endFrame 2 {}) (by simp); simp [Item.isEnd] at this
/-- ... and the invariant rejects a state that claims to be open while an end frame is out. -/
example (o : Op) (src : Source) : ¬ Good { op := o, src := src, sink := { items := [.endFrame 2 {}] } } := by
  intro h; have := h.opened rfl; simp [Sink.endMarks, Item.isEnd] at this


/-- **A gRPC response whose end is in the head announces no trailers** (the behaviour fix 6052d8d restored): when
    the response metadata already carries the end, `addProtocolResponseHeaders` of the gRPC client leaves the
    `Trailer` header as it was, so `Grpc-Status` / `Grpc-Message` are not announced - and then sent - a second time
    next to the status, message and details the head already has. -/
theorem grpc_trailers_only_declares_nothing (rm : RespMeta) (k : Sink) (e : RespEnd) (he : rm.end = some e)
    (hav : ∀ t ∈ e.trailers, t.1 ≠ canonKey (s "Trailer")) :
    (addResponseHeaders .grpc rm k).2.hdr.values (s "Trailer") = k.hdr.values (s "Trailer") := by
  have hne := (List.nodup_append.1 (responseControls_nodup .grpc rm)).2.2
  rw [addResponseHeaders_hdr, ClientForm.responseHead, ClientForm.declaredTrailers_of_end he,
    ClientForm.headTrailers_of_end he (by decide)]
  exact (foldl_setRaw_values ClientForm.grpc.headTrailerKey _ _ _ hav).trans (Hdr.values_assign_ne _ _ _ fun x hx =>
    hne _ (List.mem_map_of_mem hx) _ (List.mem_append_right _ (List.mem_singleton_self _)))

/-- Non-vacuity: an error end with one application trailer. -/
example : (addResponseHeaders .grpc { «end» := some { err := some { code := 5, msg := .text (s "gone"), details := 1 }, trailers := [(s "X-T", [[7]])] } } {}).2.hdr.values (s "Trailer") = [] := by
  decide +kernel


/-- **The response head carries the content type of the client's own protocol**, once, whatever the handler
    stored under that name - provided no trailer of an end that travels in the head is itself called
    `Content-Type` (or `Trailer-…` to that effect). -/
theorem client_content_type (c : ClientForm) (rm : RespMeta) (sink : Sink) (ct : Bytes)
    (hct : c.responseContentType rm = some ct) (ha : EndAvoids rm.end (s "Content-Type")) :
    (addResponseHeaders c rm sink).2.hdr.values (s "Content-Type") = [ct] := by
  rw [addResponseHeaders_hdr, values_responseHead_control c rm _ _ (some ct) ?_ (ha.headTrailers c), Hdr.values_setOpt_some]
  rw [← hct]
  cases c
  case rest => cases hct
  all_goals exact List.mem_cons_self

/-- Non-vacuity: the error response of a unary Connect client is JSON whatever the codec of the RPC. -/
example : ClientForm.connectPost.responseContentType { codec := s "proto", «end» := some { err := some { code := 5, msg := .gen } } }
    = some (s "application/json") := by decide +kernel


/-- **The HTTP status of the response head is the one the client's protocol prescribes**: 200 for every gRPC,
    gRPC-Web and Connect streaming response whatever the outcome (the outcome travels in trailers or in the body);
    for a unary Connect client 200 without an error, and with an error the status `httpStatusCodeFromRPC` gives
    for its code (C04 proves that this is the published table). -/
theorem client_http_status (c : ClientForm) (rm : RespMeta) (sink : Sink) :
    ((c = .grpc ∨ c = .grpcWeb ∨ c = .connectStream) → (addResponseHeaders c rm sink).1 = some 200) ∧
    ((c = .connectPost ∨ c = .connectGet) → rm.end.bind (·.err) = none → (addResponseHeaders c rm sink).1 = some 200) ∧
    ((c = .connectPost ∨ c = .connectGet) → ∀ e, rm.end.bind (·.err) = some e →
      (addResponseHeaders c rm sink).1 = httpStatusFromRPC e.code) := by
  rw [addResponseHeaders_fst]
  refine ⟨?_, fun hc h => ?_, fun hc e h => ?_⟩
  · rintro (rfl | rfl | rfl) <;> rfl
  · rw [if_pos hc, h]
  · rw [if_pos hc, h]


/-- The header in which each client protocol is told the compression of the response messages. -/
def _root_.Vanguard.ClientForm.responseEncodingHeader (c : ClientForm) : Option Bytes :=
  match c with
  | .grpc | .grpcWeb => some (s "Grpc-Encoding")
  | .connectStream => some (s "Connect-Content-Encoding")
  | .connectPost | .connectGet => some (s "Content-Encoding")
  | .rest => none


/-- **A response compression is declared in the client protocol's own header**: while the RPC is open (no end in
    the head) and the response metadata names a compression, the head has exactly that name under the header the
    client's protocol reads - so the per-message compressed flags the client sees refer to a declared compression. -/
theorem client_encoding_header (c : ClientForm) (rm : RespMeta) (sink : Sink) (k : Bytes)
    (hk : c.responseEncodingHeader = some k) (he : rm.end = none) (hz : rm.compression.isEmpty = false) :
    (addResponseHeaders c rm sink).2.hdr.values k = [rm.compression] := by
  rw [addResponseHeaders_hdr, values_responseHead_control c rm _ k (some rm.compression) ?_ ?_, Hdr.values_setOpt_some]
  · -- the entry after `Content-Type` in the table of each protocol, its condition met
    cases c <;> cases hk <;>
      simp only [ClientForm.responseControls, he, hz, Option.isNone_none, Option.bind_none, Bool.not_false, Bool.and_self,
        if_true] <;>
      exact .tail _ (.head _)
  · simp [ClientForm.headTrailers, he]

example : ClientForm.grpcWeb.responseEncodingHeader = some (s "Grpc-Encoding") := rfl
example : (addResponseHeaders .connectStream { codec := s "proto", compression := s "gzip" } {}).2.hdr.values (s "Connect-Content-Encoding") = [s "gzip"] := by
  decide +kernel

end Vanguard.C03
