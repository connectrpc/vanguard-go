import Vanguard.Model.Run
import Vanguard.Lemmas.List
/-!
  C13 — Pass-through and unknown-endpoint requests are forwarded untouched.

  `forwardObs` is the specification: the downstream handler works directly on the client's request
  record (method, URL, protocol version, every header, declared content length, body source) and on
  the client's own writer, so status, headers, body bytes and trailers are what the handler produced.
  Proved for every configuration, request and backend script: whenever the service accepts the
  client's protocol, codec and compression (`Op.passThrough`), and whenever no endpoint matches while
  an unknown-endpoint handler is configured, `serve` *is* `forwardObs` (for gRPC targets the protocol
  version is reported as 2, which is what the request already has).  The oracle evaluated on the
  implementation compares its observation with the rendering of `forwardObs`.
-/
namespace Vanguard.C13

/-- When no conversion applies the request is forwarded untouched (to the service handler). -/
theorem passthrough_identity (w : World) (sc : Scenario) (o : Op)
    (hv : validate w sc.conf sc.req = .ok o) (hp : o.passThrough = true) (hg : o.sform ≠ .grpc) :
    serve w sc = forwardObs sc .svc := by
  unfold serve
  simp only [hv, hp, if_true]
  have : (o.sform == ServerForm.grpc) = false := by simpa using hg
  simp [this]

/-- gRPC pass-through: identical except that the version is stated as HTTP/2 — which a gRPC request
    that passed validation already is. -/
theorem passthrough_identity_grpc (w : World) (sc : Scenario) (o : Op)
    (hv : validate w sc.conf sc.req = .ok o) (hp : o.passThrough = true) (hg : o.sform = .grpc) :
    serve w sc = { forwardObs sc .svc with backend := { (forwardObs sc .svc).backend with protoMajor := 2 } } := by
  unfold serve
  simp only [hv, hp, if_true]
  simp [hg]

/-- An unmatched endpoint is delegated untouched to the unknown-endpoint handler. -/
theorem unknown_endpoint_identity (w : World) (sc : Scenario)
    (hv : validate w sc.conf sc.req = .error .notFound) (hu : sc.conf.unknownHandler = true) :
    serve w sc = forwardObs sc .unknown := by
  unfold serve
  simp [hv, hu]

/-- What forwarding means, spelled out: the handler's view of the request is the client's. -/
theorem forward_request_unchanged (sc : Scenario) (d : Dispatch) :
    let b := (forwardObs sc d).backend
    b.method = sc.req.method ∧ b.path = sc.req.path ∧ b.rawQuery = sc.req.rawQuery ∧
    b.protoMajor = sc.req.protoMajor ∧ b.contentLength = sc.req.contentLength ∧ b.headers = sc.req.headers := by
  simp [forwardObs]

end Vanguard.C13
