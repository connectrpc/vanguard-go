import Vanguard.Model.Resolver
import Vanguard.Lemmas.List
/-!
  # C20 — behaviour depends on the schema's content, not on how it was loaded

  Everything `NewTranscoder` derives from a service - routes, field paths of bodies and variables,
  the messages it decodes into - is computed from the descriptors the service was registered with.
  The one place where the loading route matters is the choice of the Go message type
  (`type_resolver.go`, `registerMethod`).  Theorems about its model, for every loading route (with or
  without parent file, registered globally or not, with or without generated types, bespoke
  registry possible or not, any custom resolver answer):

  * `messageType_over_declared`: whenever registration succeeds, the message type is over the
    descriptors the service declared - never over another copy of the schema (the pinned tree
    violated this for services without parent file: `no-parent-mismatching-field`, fixed);
  * `not_found_never_fails`, `unknown_to_resolver_is_dynamic`: a resolver that does not know the
    name never makes registration fail: a dynamic message of the declared descriptor is used;
  * `fails_only_on_resolver_error`: registration of a method fails only on a resolver error other
    than "not found";
  * `fallback_first_found`, `fallback_found_iff`: the fallback chain finds a name iff one of its
    resolvers does, and prefers the earlier one.

  The configuration model (`Model/Config.newTranscoder`) takes the schema as data and has no
  notion of a loading route: its tables are route-independent by construction; that the
  implementation's are is what the `schema` stream checks (tables, probe routing, and the bytes at
  backend and client for the same request through seven routes incl. vanguardgrpc), together with
  the equality of those tables with the model's.

  NOT modelled: protobuf-go itself (that a dynamic message and a generated message of equal
  descriptors encode alike) - compared on the wire, canonically re-encoded.
-/
namespace Vanguard.C20
open Vanguard.Resolver

theorem fallback_first_found (c : Nat) (rest : List Find) : fallbackFind (.found c :: rest) = .found c := rfl

/-- The chain finds a name iff one of its resolvers does. -/
theorem fallback_found_iff (rs : List Find) : (∃ c, fallbackFind rs = .found c) ↔ ∃ c, Find.found c ∈ rs := by
  fun_induction fallbackFind rs with
  | case1 => simp
  | case2 c rest => exact ⟨fun _ => ⟨c, List.mem_cons_self⟩, fun _ => ⟨c, rfl⟩⟩
  | case3 e hne => cases e <;> simp at hne ⊢            -- the last resolver, and it does not find the name
  | case4 e rest hne _ ih => rw [ih]; cases e <;> simp at hne ⊢   -- not the last: the rest of the chain decides

/-- **Whatever the loading route, a registered method's message type is over the declared
    descriptors.** -/
theorem messageType_over_declared (l : Load) (t : TypeChoice) (h : l.messageType = some t) :
    t.copy = l.declared := by
  unfold Load.messageType at h
  revert h
  fun_cases chooseType l.declared l.find <;> intro h <;> cases h
  case case1 c hc => exact beq_iff_eq.mp hc    -- the resolver's type, when it is over the declared descriptor
  all_goals rfl                                 -- otherwise a dynamic type of the declared descriptor

/-- A resolver that does not know the name never makes registration fail. -/
theorem not_found_never_fails (declared : Nat) : (chooseType declared .notFound).isSome = true := rfl

theorem unknown_to_resolver_is_dynamic (l : Load) (h : l.find = .notFound) :
    l.messageType = some (.dynamic l.declared) := by
  simp [Load.messageType, chooseType, h]

/-- Registration fails only when the resolver fails with something other than "not found". -/
theorem fails_only_on_resolver_error (l : Load) : l.messageType = none ↔ l.find = .failed := by
  unfold Load.messageType
  generalize l.find = f
  fun_cases chooseType l.declared f <;> simp

/-- Without a custom resolver registration never fails, for every loading route. -/
theorem builtin_routes_never_fail (l : Load) (h : l.custom = none) : l.messageType.isSome = true := by
  have hne : l.find ≠ .failed := by
    fun_cases Load.find l
    case case1 hf => rw [h] at hf; cases hf     -- a custom resolver: excluded
    case case5 => nofun                          -- the file's own types come first in the chain
    -- every other route asks the global registry, which finds the name or does not
    all_goals
      show (match l.global with | some c => Find.found c | none => .notFound) ≠ .failed
      cases l.global <;> nofun
  cases hm : l.messageType with
  | some t => rfl
  | none => exact absurd ((fails_only_on_resolver_error l).mp hm) hne

/-- Non-vacuity: the seven loading routes of the `schema` stream as `Load` values.  Copy 0 is the
    generated code, copy 1 a freshly built file. -/
example : ({ declared := 0, hasParent := true, sameFileInGlobal := true, global := some 0, registerOk := true } : Load).messageType
    = some (.resolved 0) := by decide     -- generated / global-desc
example : ({ declared := 1, hasParent := true, sameFileInGlobal := false, global := some 0, registerOk := true } : Load).messageType
    = some (.resolved 1) := by decide     -- fresh file: dynamic types of the file itself
example : ({ declared := 1, hasParent := false, sameFileInGlobal := false, global := some 0, registerOk := true } : Load).messageType
    = some (.dynamic 1) := by decide      -- no parent file: the pinned tree answered `resolved 0`
example : ({ declared := 1, hasParent := true, sameFileInGlobal := false, global := some 0, registerOk := true, custom := some .notFound } : Load).messageType
    = some (.dynamic 1) := by decide      -- resolver that knows nothing

end Vanguard.C20
