import Vanguard.Lemmas.TargetHeaders
import Vanguard.Lemmas.RespHeaders
import Vanguard.Lemmas.TrailerRelay
/-!
  C05 — Application headers and trailers survive transcoding in both directions.

  Header maps are association lists over canonical keys; every statement is about `values k`, so
  Go's map iteration order cannot matter.  `NotControl k` says that `k` is none of the header names
  the protocol handlers read, delete or set (`controlNames`).
  Proved, **request direction** (every configuration, client form, target form and header set): a
  header that is not a protocol control header has, after validation and after the target protocol's
  headers were added, exactly the name and (multi-)values the client sent.
  Proved, **response direction** (every backend protocol, client protocol, status, declared trailers,
  content length, compression): `head_has_application_headers` - when the response head goes out
  without ending the RPC, every application header (`RespApp`: not a response control header, not
  written in one of the two trailer notations) has in the head the client receives exactly the values
  the backend handler left in its header map; the three steps behind it are separate theorems
  (`extract_response_keeps_application_headers`, `add_response_headers_keep_application_headers`,
  `flushed_head_is_the_live_map`).  Protocol status keys never stay in application trailers
  (`status_keys_never_leak`), other trailer keys are untouched by the status extraction.
  Trailer relocation (which place the client's protocol defines) and error responses: compared field
  by field between model and implementation on every e2e scenario (`ch`, `ct`), and checked against
  the scenario's ground truth by `oracleC05`.
  Proved, **trailers in the place the client's protocol defines** (every state the response writer can
  reach, `Good`): the trailers of the RPC's end - the ones the backend's protocol handler extracted, or the
  ones the handler stored when the end has none (`effTrailers`) - reach a Connect-streaming client inside
  its end-of-stream frame, always (`connect_stream_trailers_in_end_of_stream`); a gRPC-Web client, once the
  head is out, inside its trailer frame (`grpc_web_trailers_in_trailer_frame`); a gRPC client, once the
  head is out, as HTTP trailers merged under the `Trailer:` prefix (`grpc_trailers_in_http_trailers`).
  Partial: trailers-only responses of gRPC / gRPC-Web clients (end in the head) and the `Trailer-`
  headers of a unary Connect client are compared and checked by the oracle, not proved.
-/
namespace Vanguard.C05

/-- Extracting the client protocol's control headers leaves every other header untouched. -/
theorem extraction_keeps_application_headers (c : ClientForm) (q : Query) (h : Hdr) (rm : ReqMeta) (h' : Hdr)
    (k : Bytes) (hk : NotControl k) (hex : c.extractRequestHeaders q h = some (rm, h')) :
    h'.values k = h.values k := by
  rw [extract_headers hex]
  exact Hdr.values_foldl_del_ne _ _ _ fun a ha => hk a (deleted_subset_controlNames c a (List.mem_append_left _ ha))

/-- Adding the target protocol's control headers touches no other header. -/
theorem target_headers_keep_application_headers (p : ServerForm) (m : ReqMeta) (h : Hdr) (k : Bytes)
    (hk : NotControl k) : (p.addRequestHeaders m h).values k = h.values k := by
  rw [addRequestHeaders_eq]
  exact Hdr.values_assign_ne _ _ _ fun e he => hk e.1 (requestControls_subset p m e he)

/-- **Request headers reach the backend.** For every request that passes validation, whatever target
    protocol was negotiated, a non-control header arrives with the same (multi-)values. -/
theorem request_headers_reach_backend (w : World) (t : TConf) (r : Req) (o : Op) (m : ReqMeta) (k : Bytes)
    (hk : NotControl k) (hv : validate w t r = .ok o) :
    (o.sform.addRequestHeaders m o.headers).values k = r.headers.values k := by
  rw [target_headers_keep_application_headers o.sform m o.headers k hk, (validate_ok hv).headers_eq]
  exact Hdr.values_foldl_del_ne _ _ _ fun a ha => hk a (deleted_subset_controlNames _ a ha)

/-- Taking the backend protocol's control headers out of the response head leaves every application
    header untouched. -/
theorem extract_response_keeps_application_headers (p : ServerForm) (tb : Tables) (status : Nat) (h : Hdr) (k : Bytes)
    (hk : RespApp k) : (p.extractResponseHeaders tb status h).2.2.values k = h.values k :=
  extract_response_preserves p tb status h k hk

/-- Adding the client protocol's control headers (and, for an end that travels in the head, its
    trailers under other keys) touches no application header. -/
theorem add_response_headers_keep_application_headers (c : ClientForm) (rm : RespMeta) (sink : Sink) (k : Bytes)
    (hk : RespApp k) (ha : EndAvoids rm.end k) : (addResponseHeaders c rm sink).2.hdr.values k = sink.hdr.values k :=
  add_response_preserves c rm sink k hk ha

/-- The head on the wire is the live header map at the moment of the flush. -/
theorem flushed_head_is_the_live_map (w : World) (st : St) (k : Bytes) (hk : RespApp k)
    (hf : st.rw.headersFlushed = false) (hs : st.sink.status = none)
    (ha : EndAvoids (st.rw.respMeta.getD {}).end k) :
    (flushHeaders w st).1.sink.snap.values k = st.sink.hdr.values k :=
  flushHeaders_snapshot w st k hk hf hs ha

/-- **Response headers reach the client** (see `Lemmas/RespHeaders.lean` for the statement in words). -/
theorem response_headers_reach_client (w : World) (tb : Tables) (st : St) (status : Nat) (k : Bytes) (h0 : Hdr)
    (hk : RespApp k) (hp : Pre k h0 st) (hnew : st.rw.headersWritten = false)
    (hfl : (rwWriteHeader w tb st status).1.rw.headersFlushed = true)
    (hop : (rwWriteHeader w tb st status).1.rw.endWritten = false) :
    (rwWriteHeader w tb st status).1.sink.snap.values k = h0.values k :=
  head_has_application_headers w tb st status k h0 hk hp hnew hfl hop

/-- gRPC status keys never stay in the application trailers; every other key keeps its values. -/
theorem status_keys_never_leak (tb : Tables) (h : Hdr) :
    (grpcExtractErrorFromTrailer tb h).2.has (s "Grpc-Status") = false ∧
    (grpcExtractErrorFromTrailer tb h).2.has (s "Grpc-Message") = false ∧
    (grpcExtractErrorFromTrailer tb h).2.has (s "Grpc-Status-Details-Bin") = false := by
  rw [grpcExtractErrorFromTrailer_snd]
  have hd := Hdr.has_foldl_del [s "Grpc-Status", s "Grpc-Message", s "Grpc-Status-Details-Bin"] h
  exact ⟨hd _ (by simp), hd _ (by simp), hd _ (by simp)⟩

theorem trailer_keys_survive_status_extraction (tb : Tables) (h : Hdr) (k : Bytes) (hk : RespApp k) :
    (grpcExtractErrorFromTrailer tb h).2.values k = h.values k :=
  grpcExtractErrorFromTrailer_values tb h k hk

/-- A Connect-streaming client gets the end of the RPC - error and trailers - as its end-of-stream
    frame (flags 2), whether or not the head was already sent. -/
theorem connect_stream_trailers_in_end_of_stream (w : World) (st : St) (e : RespEnd) (hg : Good st)
    (hopen : st.rw.endWritten = false) (hc : st.op.cform = .connectStream) :
    ∃ e', (reportEnd w st e).1.sink.endItem = some (.endFrame 2 e') ∧ e'.err = e.err ∧ e'.trailers = effTrailers st e := by
  by_cases hfl : st.rw.headersFlushed = true
  · obtain ⟨f, e', h1, h2, h3, h4⟩ := reportEnd_late_frame w st e hg hopen hfl (Or.inr hc)
    rw [hc] at h4; simp at h4; subst h4
    exact ⟨e', h1, h2, h3⟩
  · rw [reportEnd_eq w st e hopen, if_neg hfl]
    exact ⟨_, flushHeaders_stream_item w (st.withEnd e) _ (hg.withEnd hopen e) (Bool.eq_false_iff.2 hfl) rfl hc, rfl, rfl⟩

/-- A gRPC-Web client whose head is out gets error and trailers as its trailer frame (flags 0x80). -/
theorem grpc_web_trailers_in_trailer_frame (w : World) (st : St) (e : RespEnd) (hg : Good st)
    (hopen : st.rw.endWritten = false) (hfl : st.rw.headersFlushed = true) (hc : st.op.cform = .grpcWeb) :
    ∃ e', (reportEnd w st e).1.sink.endItem = some (.endFrame 0x80 e') ∧ e'.err = e.err ∧ e'.trailers = effTrailers st e := by
  obtain ⟨f, e', h1, h2, h3, h4⟩ := reportEnd_late_frame w st e hg hopen hfl (Or.inl hc)
  rw [hc] at h4; simp at h4; subst h4
  exact ⟨e', h1, h2, h3⟩

/-- A gRPC client whose head is out gets the trailers as HTTP trailers and the status in them. -/
theorem grpc_trailers_in_http_trailers (w : World) (st : St) (e : RespEnd) (hopen : st.rw.endWritten = false)
    (hfl : st.rw.headersFlushed = true) (hc : st.op.cform = .grpc) :
    (reportEnd w st e).1.sink.hdr = httpMergeTrailers (cleanedHdr st) (effTrailers st e) ∧
    (reportEnd w st e).1.sink.trailerEndSet = true ∧ (reportEnd w st e).1.sink.trailerEnd = e.err := by
  rw [reportEnd_eq w st e hopen, if_pos hfl, hc]
  exact ⟨rfl, rfl, rfl⟩

/-- Non-vacuity (kernel-evaluated): a Connect-streaming client, end with one trailer. -/
def tOp : Op := { conf := { path := s "/p.S/M", streamType := .bidi, noSideEffects := false, protocols := [.grpc], codecs := [rawName], compressors := [], maxMsg := 100, maxGetURL := 100 }, cform := .connectStream, sform := .grpc, reqMeta := {}, ccodec := rawName, scodec := rawName, cReqComp := none, sReqComp := none, headers := [], contentLen := -1, query := [], reqMethod := sPOST }
def tSt : St := { op := tOp, src := { chunks := [], ending := .eof }, sink := {} }
example : Good tSt ∧ tSt.rw.endWritten = false := ⟨good_init _ _, rfl⟩
example : ((reportEnd fakeWorld tSt { trailers := [(s "X-T", [[7]])] }).1.sink.endItem.map fun i =>
    match i with | .endFrame f e => (f, e.trailers) | _ => (0, [])) = some (2, [(s "X-T", [[7]])]) := by decide +kernel

/-! Non-vacuity: a gRPC-Web client in front of a gRPC backend whose handler set `X-App` and the
    gRPC content type: `WriteHeader(200)` flushes the head, does not end the RPC, and the head the
    client receives has `X-App` with the handler's value (kernel-evaluated). -/
def demoConf : MethodConf := { path := s "/p.S/M", streamType := .unary, noSideEffects := false, protocols := [.grpc], codecs := [rawName], compressors := [], maxMsg := 100, maxGetURL := 100 }
def demoOp : Op := { conf := demoConf, cform := .grpcWeb, sform := .grpc, reqMeta := {}, ccodec := rawName, scodec := rawName, cReqComp := none, sReqComp := none, headers := [], contentLen := -1, query := [], reqMethod := sPOST }
def demoSt : St := { op := demoOp, src := { chunks := [], ending := .eof }, sink := { hdr := [(s "Content-Type", [s "application/grpc+raw"]), (s "X-App", [[1, 2]])] } }
example : ((rwWriteHeader fakeWorld {} demoSt 200).1.rw.headersFlushed
    && !(rwWriteHeader fakeWorld {} demoSt 200).1.rw.endWritten
    && ((rwWriteHeader fakeWorld {} demoSt 200).1.sink.snap.values (s "X-App") == [[1, 2]])) = true := by decide +kernel
example : Pre (s "X-App") demoSt.sink.hdr demoSt := ⟨rfl, rfl, rfl, rfl⟩

/-- **Trailers-only responses of gRPC and gRPC-Web clients**: when the response metadata already carries the end,
    every trailer of that end (distinct keys) is in the response head under its own name with its values. -/
theorem trailers_only_metadata_in_head (c : ClientForm) (hc : c = .grpc ∨ c = .grpcWeb) (rm : RespMeta) (sink : Sink)
    (e : RespEnd) (he : rm.end = some e) (hd : e.trailers.Pairwise (fun a b => a.1 ≠ b.1))
    (t : Bytes × List Bytes) (ht : t ∈ e.trailers) (k : Bytes) (hk : t.1 = canonKey k) :
    (addResponseHeaders c rm sink).2.hdr.values k = t.2 := by
  rw [addResponseHeaders_hdr]
  rcases hc with rfl | rfl <;> exact values_responseHead_trailer _ rm _ k e t he (by decide) hd ht hk nofun

/-- Non-vacuity: one application trailer of an error end, read off the head of a gRPC-Web response. -/
example : (addResponseHeaders .grpcWeb { «end» := some { err := some { code := 5, msg := .text (s "gone"), details := 1 }, trailers := [(s "X-T", [[7]])] } } {}).2.hdr.values (s "X-T") = [[7]] := by
  decide +kernel


/-- **The trailers of a unary Connect response are `Trailer-` prefixed headers of the head**: when the response
    metadata carries the end, every trailer of that end (distinct keys) is in the head under `Trailer-<name>` with
    its values (for every name other than the one control header set afterwards). -/
theorem connect_unary_trailers_in_head (c : ClientForm) (hc : c = .connectPost ∨ c = .connectGet) (rm : RespMeta)
    (sink : Sink) (e : RespEnd) (he : rm.end = some e) (hd : e.trailers.Pairwise (fun a b => a.1 ≠ b.1))
    (t : Bytes × List Bytes) (ht : t ∈ e.trailers) (k : Bytes) (hk : s "Trailer-" ++ t.1 = canonKey k)
    (hne : canonKey (s "Accept-Encoding") ≠ canonKey k) :
    (addResponseHeaders c rm sink).2.hdr.values k = t.2 := by
  rw [addResponseHeaders_hdr]
  rcases hc with rfl | rfl <;>
    exact values_responseHead_trailer _ rm _ k e t he (by decide) hd ht hk (List.forall_mem_singleton.2 hne)

/-- Non-vacuity: a trailer of a failed unary Connect RPC, read off the head. -/
example : (addResponseHeaders .connectPost { codec := s "proto", «end» := some { err := some { code := 5, msg := .gen }, trailers := [(s "X-T", [[7]])] } } {}).2.hdr.values (s "Trailer-X-T") = [[7]] := by
  decide +kernel

end Vanguard.C05
