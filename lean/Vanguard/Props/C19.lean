import Vanguard.Model.Run
import Vanguard.Lemmas.List
/-!
  C19 — GET is accepted and issued only for side-effect-free methods.

  Proved about the model of `resolveMethod` and of the Connect request line
  (`connectUnaryServerProtocol.useGet/requestLine`), for every configuration and request:
  * a non-POST request is accepted iff it is a Connect GET request (classified as such) with HTTP
    method GET on a method declared side-effect-free; otherwise 405 with `Allow: POST`, or
    `Allow: GET,POST` when the method would allow GET but the HTTP method is neither;
  * toward a Connect backend GET is issued iff the client's own request was a GET, the method is
    side-effect-free, the target codec has a stable encoding and path + "?" + query fits the
    configured maximum — with the boundary exact; in every other case POST.
  GET/POST decoding equality and the decision on the implementation are checked by `oracleC19` on
  the e2e stream and on the `getpost` stream (same content sent both ways).
-/
namespace Vanguard.C19

/-- Acceptance of non-POST requests. -/
theorem get_accepted_iff (t : TConf) (c : ClientForm) (r : Req) (m : MethodConf)
    (hfind : t.methods.find? (fun m => m.path == r.path) = some m) (hnp : r.method ≠ sPOST) :
    (resolveMethod t c r = .ok m ↔ (c = .connectGet ∧ m.noSideEffects = true ∧ r.method = sGET)) ∧
    (¬ (c = .connectGet ∧ m.noSideEffects = true) → resolveMethod t c r = .error (.status 405 (some sPOST))) ∧
    (c = .connectGet → m.noSideEffects = true → r.method ≠ sGET →
        resolveMethod t c r = .error (.status 405 (some (s "GET,POST")))) := by
  have hnp' : (r.method != sPOST) = true := by simpa using hnp
  simp only [resolveMethod, hfind, hnp', if_true]
  -- the three conditions decide the outcome
  by_cases hc : c = .connectGet <;> by_cases hn : m.noSideEffects = true <;> by_cases hg : r.method = sGET <;>
    simp [hc, hn, hg]

/-- POST is always accepted for a known method (the GET rules do not apply). -/
theorem post_accepted (t : TConf) (c : ClientForm) (r : Req) (m : MethodConf)
    (hfind : t.methods.find? (fun m => m.path == r.path) = some m) (hp : r.method = sPOST) :
    resolveMethod t c r = .ok m := by
  unfold resolveMethod; simp [hfind, hp]

/-- **GET is issued iff…** (`useGet`): the client's request was a GET, the method is side-effect-free,
    the target is Connect unary and its codec has a stable encoding. -/
theorem use_get_iff (w : World) (o : Op) :
    (o.plan w).useGet = true ↔
      (o.sform = .connectUnary ∧ o.reqMethod = sGET ∧ w.stable o.scodec = true ∧ o.conf.noSideEffects = true) := by
  unfold Op.plan
  simp [Bool.and_eq_true, and_assoc]

/-- … **and the URL fits, exactly.**  With `useGet`, GET is issued iff
    `len(path) + 1 + len(query) ≤ maxGetURL`; one byte more falls back to POST. -/
theorem get_url_limit_exact (w : World) (o : Op) (v : Bytes) :
    (connectGetQuery w o v).isSome = true ↔
      o.conf.path.length + 1 + (connectGetQueryString w o v).length ≤ o.conf.maxGetURL := by
  unfold connectGetQuery
  simp only
  split <;> simp <;> omega

/-- When GET is issued, the query is the canonical one (it re-parses to the message, see C19 oracle). -/
theorem get_query_is_canonical (w : World) (o : Op) (v q : Bytes) (h : connectGetQuery w o v = some q) :
    q = connectGetQueryString w o v := by
  unfold connectGetQuery at h
  simp only at h
  split at h <;> simp_all

end Vanguard.C19
