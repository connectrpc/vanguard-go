import Vanguard.Lemmas.Source
import Vanguard.Lemmas.UInt8
import Vanguard.Lemmas.Envelope
import Vanguard.Gen.Facts
import Vanguard.Lemmas.Chunking
import Vanguard.Lemmas.EndRelay
/-!
  C09 — Truncated or malformed streams never surface as success.

  Proved, for every byte / every chunking:
  * for each of the six enveloped protocol handlers, *every* flag byte that is not legal for the
    handler is rejected by `decodeEnvelope` (all 256 values), and a legal one decodes to the flags
    the protocol documents define;
  * an envelope prefix or a payload that stops early is an error of the exact reader, never a
    completed read, however the bytes were split (`readExactly` over adversarial chunkings): a cut
    inside the 5-byte prefix or inside the payload cannot be taken for a frame boundary;
  * a clean end exactly at a frame boundary is the only way to get `EOF`.
  * one level up, for the transcoder's own message reader (`readRequestMessage`, every segmentation):
    a body that is a sequence of legal frames within the limit is cut into **exactly those messages**
    (payloads and compressed flags, in order) followed by a clean end
    (`complete_messages_delivered_exactly`); a body that stops inside an envelope after such frames
    yields the complete messages and then `unexpected EOF`, never the partial data and never a clean
    end (`cut_body_is_error_after_complete_messages`); a payload shorter than announced is an error
    (`cut_payload_is_error`).
  On the implementation, `oracleC09` demands a non-OK client outcome for every request or response
  stream of the e2e scenarios that is not a whole number of frames, carries an illegal flag byte or
  ends with an unexpected EOF, and that the backend was handed only messages the client completed.
-/
namespace Vanguard.C09

def legalFlags (e : Enveloper) (b : UInt8) : Bool :=
  match e with
  | .grpcWebServer => b == 0 || b == 1 || b == 0x80 || b == 0x81
  | .connectStreamServer => b == 0 || b == 1 || b == 2 || b == 3
  | _ => b == 0 || b == 1

/-- **Every value 0..255 of the flag byte**: accepted iff legal, for each handler. -/
theorem bad_flags_rejected (e : Enveloper) (b : UInt8) : (e.decodeFlags b).isSome = legalFlags e b := by
  cases e
  -- the two dialects with an end-of-stream bit test the byte against a mask: all 256 values
  case grpcWebServer | connectStreamServer => revert b; apply forall_uint8; decide +kernel
  -- the others ask `flags != 0 && flags != 1`
  all_goals
    simp only [Enveloper.decodeFlags, legalFlags, bne]
    by_cases h0 : b = 0
    · subst h0; rfl
    by_cases h1 : b = 1
    · subst h1; rfl
    simp [h0, h1]

/-- Legal flags decode to the documented meaning (bit 0 compressed; end marker bit 7 / bit 1). -/
theorem legal_flags_meaning (b : UInt8) :
    (Enveloper.grpcServer.decodeFlags b = some (false, true) ↔ b = 1) ∧
    (Enveloper.grpcWebServer.decodeFlags b = some (true, false) ↔ b = 0x80) ∧
    (Enveloper.connectStreamServer.decodeFlags b = some (true, false) ↔ b = 2) := by
  revert b; apply forall_uint8; decide +kernel

/-- A stream that stops inside the 5-byte envelope prefix (1–4 bytes) is an error, whatever the
    chunking, and whichever way the body ends. -/
theorem cut_inside_prefix_is_error (src : Source) (h1 : 0 < src.data.length) (h5 : src.data.length < 5) :
    ∃ src', readExactly (src.data.length + 7) src 5 [] = (src.data, some .unexpectedEOF, src') := by
  obtain ⟨src', h, _⟩ := readExactly_spec (src.data.length + 7) src 5 [] (.inr (by omega))
  refine ⟨src', ?_⟩
  rw [h, if_neg (Nat.not_le.mpr h5), List.take_of_length_le (Nat.le_of_lt h5)]
  cases hd : src.data with
  | nil => rw [hd] at h1; exact absurd h1 (by decide)
  | cons _ _ => rw [List.nil_append, shortErr_cons]

/-- A payload that stops before the announced `k` bytes is an error as well. -/
theorem cut_inside_payload_is_error (src : Source) (k : Nat) (hk : src.data.length < k) :
    ∃ src' e, readExactly (src.data.length + k + 2) src k [] = (src.data, some e, src') := by
  obtain ⟨src', h, _⟩ := readExactly_spec (src.data.length + k + 2) src k [] (.inr (by omega))
  exact ⟨src', shortErr src.ending src.data, by rw [h, if_neg (Nat.not_le.mpr hk), List.take_of_length_le (Nat.le_of_lt hk)]; rfl⟩

/-- Only a clean end exactly at a frame boundary yields `EOF` for the next prefix. -/
theorem eof_only_at_boundary (src : Source) (hd : src.data = []) (he : src.ending ≠ .unexpected) :
    ∃ src', readExactly 7 src 5 [] = ([], some .eof, src') := by
  obtain ⟨src', h, _⟩ := readExactly_spec 7 src 5 [] (.inl (by decide))
  refine ⟨src', ?_⟩
  rw [h, hd, if_neg (by decide)]
  simp [shortErr_nil he]


/-- Every envelope dialect of the model has a 5-byte prefix; so has the source (`envelopeLen`,
    regenerated on every run). -/
theorem source_envelope_length_is_model : Gen.envelopeLen = 5 := by decide

/-- **The flag bytes the six envelope dialects accept, and what they mean, are the source's**:
    `Gen.decodeFlags_*Src` are translated from the `decodeEnvelope` methods of `protocol_grpc.go` /
    `protocol_connect.go` on every run (guard and the two flag fields, expression by expression; a method that
    delegates to another one is translated as that delegation).  For every flag byte the model's decoder
    is the source's - a widened mask, another bit, or a client-side decoder that starts to accept the
    end-of-stream bit breaks this theorem. -/
theorem source_envelope_flags_are_model : ∀ flags : UInt8,
    Enveloper.decodeFlags .grpcServer flags = Gen.decodeFlags_grpcServerProtocolSrc flags ∧
    Enveloper.decodeFlags .grpcClient flags = Gen.decodeFlags_grpcClientProtocolSrc flags ∧
    Enveloper.decodeFlags .grpcWebServer flags = Gen.decodeFlags_grpcWebServerProtocolSrc flags ∧
    Enveloper.decodeFlags .grpcWebClient flags = Gen.decodeFlags_grpcWebClientProtocolSrc flags ∧
    Enveloper.decodeFlags .connectStreamServer flags = Gen.decodeFlags_connectStreamServerProtocolSrc flags ∧
    Enveloper.decodeFlags .connectStreamClient flags = Gen.decodeFlags_connectStreamClientProtocolSrc flags :=
  forall_uint8 (by decide +kernel)

/-- **Source tie of the envelope encoders.**  `Gen.encodeFlags_*Src` are translated from the `encodeEnvelope`
    methods on every run, statement by statement (the flag byte starts at 0; `if env.f { envBytes[0] = N }`,
    `if env.f { envBytes[0] |= N }`; the length written by `binary.BigEndian.PutUint32(envBytes[1:], env.length)`;
    a delegating method as that delegation).  For every envelope the model's flag byte is the source's. -/
theorem source_envelope_encoders_are_model (env : Envelope) :
    Enveloper.encodeFlags .grpcServer env = Gen.encodeFlags_grpcServerProtocolSrc env.compressed env.trailer ∧
    Enveloper.encodeFlags .grpcClient env = Gen.encodeFlags_grpcClientProtocolSrc env.compressed env.trailer ∧
    Enveloper.encodeFlags .grpcWebServer env = Gen.encodeFlags_grpcWebServerProtocolSrc env.compressed env.trailer ∧
    Enveloper.encodeFlags .grpcWebClient env = Gen.encodeFlags_grpcWebClientProtocolSrc env.compressed env.trailer ∧
    Enveloper.encodeFlags .connectStreamServer env = Gen.encodeFlags_connectStreamServerProtocolSrc env.compressed env.trailer ∧
    Enveloper.encodeFlags .connectStreamClient env = Gen.encodeFlags_connectStreamClientProtocolSrc env.compressed env.trailer := by
  obtain ⟨t, c, n⟩ := env
  cases t <;> cases c <;> exact ⟨rfl, rfl, rfl, rfl, rfl, rfl⟩

/-- What the peer's decoder makes of five envelope bytes. -/
def readBack (dec : Enveloper) : Bytes → Option Envelope
  | [f, a, b, c, d] => dec.decode f a b c d
  | _ => none

theorem readBack_encode (dec enc : Enveloper) (env : Envelope) (h : env.length < 4294967296) :
    readBack dec (enc.encode env) =
      (dec.decodeFlags (enc.encodeFlags env)).map fun (t, z) => { trailer := t, compressed := z, length := env.length } := by
  simp only [readBack, Enveloper.encode, be32, Enveloper.decode, fromBe32_ofNat env.length h]

/-- **An envelope the transcoder writes is read back as the same envelope by the decoder of the same dialect**
    (for every envelope with a 32-bit length): what it writes to a client (`*Client.encodeEnvelope`) is what a
    transcoder in front of it reads from a backend (`*Server.decodeEnvelope`), end-of-stream bit included where the
    dialect has one; what it writes to a backend (`*Server.encodeEnvelope`) is what it reads from a client
    (`*Client.decodeEnvelope`), where no end-of-stream bit exists.  So a flag byte written here is never one
    that `source_envelope_flags_are_model`'s decoders reject, and compressed / end-of-stream are never swapped. -/
theorem written_envelopes_are_read_back (env : Envelope) (h : env.length < 4294967296) :
    readBack .grpcWebServer (Enveloper.encode .grpcWebClient env) = some env ∧
    readBack .connectStreamServer (Enveloper.encode .connectStreamClient env) = some env ∧
    readBack .grpcServer (Enveloper.encode .grpcClient env) = some { env with trailer := false } ∧
    readBack .grpcClient (Enveloper.encode .grpcServer env) = some { env with trailer := false } ∧
    readBack .grpcWebClient (Enveloper.encode .grpcWebServer env) = some { env with trailer := false } ∧
    readBack .connectStreamClient (Enveloper.encode .connectStreamServer env) = some { env with trailer := false } := by
  simp only [readBack_encode _ _ env h]
  -- what is left is the finite table of flag bytes: two flags, six pairs of dialects (the length plays no part in it)
  have tbl : ∀ t c : Bool,
      Enveloper.decodeFlags .grpcWebServer (Enveloper.encodeFlags .grpcWebClient ⟨t, c, 0⟩) = some (t, c) ∧
      Enveloper.decodeFlags .connectStreamServer (Enveloper.encodeFlags .connectStreamClient ⟨t, c, 0⟩) = some (t, c) ∧
      Enveloper.decodeFlags .grpcServer (Enveloper.encodeFlags .grpcClient ⟨t, c, 0⟩) = some (false, c) ∧
      Enveloper.decodeFlags .grpcClient (Enveloper.encodeFlags .grpcServer ⟨t, c, 0⟩) = some (false, c) ∧
      Enveloper.decodeFlags .grpcWebClient (Enveloper.encodeFlags .grpcWebServer ⟨t, c, 0⟩) = some (false, c) ∧
      Enveloper.decodeFlags .connectStreamClient (Enveloper.encodeFlags .connectStreamServer ⟨t, c, 0⟩) = some (false, c) := by
    decide
  obtain ⟨t, c, n⟩ := env
  obtain ⟨h1, h2, h3, h4, h5, h6⟩ := tbl t c
  exact ⟨congrArg _ h1, congrArg _ h2, congrArg _ h3, congrArg _ h4, congrArg _ h5, congrArg _ h6⟩

example : readBack .grpcWebServer (Enveloper.encode .grpcWebClient { trailer := true, compressed := true, length := 70000 })
    = some { trailer := true, compressed := true, length := 70000 } := by decide

/-- **Every complete message is delivered exactly, then a clean end** (see `Lemmas/Chunking.lean`). -/
theorem complete_messages_delivered_exactly (w : World) (ce : Enveloper) (fs : List Frame) (st : St) (n : Nat)
    (hce : st.op.clientEnveloper = some ce) (hok : ∀ x ∈ fs, x.ok ce st.op.conf.maxMsg)
    (hd : st.src.data = framesBytes fs) (he : st.src.ending ≠ .unexpected) (hn : fs.length < n) :
    readMessages w n st = (fs.map (Frame.msg ce), .eof) := by
  have h := cutMessages_frames_then ce st.op.conf.maxMsg st.src.ending fs [] n hok (by decide) hn
  rw [List.append_nil] at h
  rw [readMessages_eq w ce n st hce, hd, h, shortErr_nil he]

/-- **A body cut inside an envelope**: the complete messages, then an error. -/
theorem cut_body_is_error_after_complete_messages (w : World) (ce : Enveloper) (fs : List Frame) (tail : Bytes)
    (st : St) (n : Nat) (hce : st.op.clientEnveloper = some ce) (hok : ∀ x ∈ fs, x.ok ce st.op.conf.maxMsg)
    (hd : st.src.data = framesBytes fs ++ tail) (hn : fs.length < n) (ht : 0 < tail.length ∧ tail.length < 5) :
    readMessages w n st = (fs.map (Frame.msg ce), .unexpectedEOF) := by
  rw [readMessages_eq w ce n st hce, hd, cutMessages_frames_then ce _ _ fs tail n hok ht.2 hn]
  cases tail with
  | nil => exact absurd ht.1 (by decide)
  | cons t ts => rw [shortErr_cons]

/-- **A payload shorter than its envelope announces** is an error: the partial message is not returned. -/
theorem cut_payload_is_error (w : World) (st : St) (ce : Enveloper) (hce : st.op.clientEnveloper = some ce)
    (f a b c d : UInt8) (part : Bytes) (env : Envelope) (hdata : st.src.data = [f, a, b, c, d] ++ part)
    (hdec : ce.decode f a b c d = some env) (hnt : env.trailer = false) (hshort : part.length < env.length)
    (hfit : ¬ env.length > st.op.conf.maxMsg) :
    (readRequestMessage w st false).1 = .error .unexpectedEOF := by
  obtain ⟨_, _, _, h⟩ := readRequestMessage_enveloped w st false ce hce
  rw [h, hdata]
  simp [cutMessage, cutFrame, hdec, hnt, hfit, Nat.not_le.mpr hshort]

/-- Non-vacuity: a gRPC frame `00 00 00 00 02 | 07 08` is `ok` under a limit of 16 bytes, and its
    message is the two payload bytes, not compressed. -/
example : (⟨0, 0, 0, 0, 2, [7, 8]⟩ : Frame).ok .grpcClient 16 :=
  ⟨{ length := 2 }, by decide, rfl, rfl, by decide⟩
example : (⟨0, 0, 0, 0, 2, [7, 8]⟩ : Frame).msg .grpcClient = ([7, 8], false) := by decide

/-!
  When the handler returns, `responseWriter.close` closes the body writer.  If the backend's output stopped
  inside an envelope or inside a message, the writer reports an error, and by C04's relay theorem
  (`reportError_relays`) the client reads it: code `unknown`, never a success.  (`Good`, open and `CanTell`
  hold in every state a handler can reach: C03, C04.) -/

/-- **Re-encoding path**: bytes of an unfinished envelope or message in the buffer, or a message announced by
    its envelope of which nothing came, make `Close` report `unknown` to the client. -/
theorem truncated_response_is_error_reencoded (w : World) (tb : Tables) (st : St) (t : TW) (hg : Good st)
    (hopen : st.rw.endWritten = false) (ht : CanTell st) (hexp : t.expecting ≠ -1)
    (hcut : t.buffer.isSome = true ∧ (!(t.buffer.getD []).isEmpty || (!t.writingEnvelope && t.expecting > 0)) = true) :
    (twClose w tb st t).1.sink.clientErr st.op.cform = some (genErr 2) := by
  unfold twClose
  have h1 : (t.expecting == -1) = false := by
    cases h : t.expecting == -1 with
    | false => rfl
    | true => exact absurd (eq_of_beq h) hexp
  simp only [hopen, Bool.false_eq_true, if_false, h1, hcut.1, hcut.2, Bool.and_self, if_true]
  exact reportError_relays w st .other hg hopen ht

/-- **Re-framing path**: a `Close` while bytes of an envelope or of a payload are still missing (and the
    writer is not exactly between two messages) reports `unknown` to the client. -/
theorem truncated_response_is_error_reframed (w : World) (st : St) (e : EW) (hg : Good st)
    (hopen : st.rw.endWritten = false) (ht : CanTell st) (hcur : e.current = .down ∨ e.current = .none)
    (herr : e.err = false) (hrem : e.remaining > 0) (hmid : (e.writingEnvelope && e.remaining == 5) = false) :
    (ewClose w st e).1.sink.clientErr st.op.cform = some (genErr 2) := by
  have hflush : ewCloseFlush w st e = (st, e, false) := by
    unfold ewCloseFlush
    rcases hcur with h | h <;> simp [h]
  unfold ewClose
  rw [hflush]
  simp only [Bool.false_eq_true, if_false, herr, Bool.false_and, hmid, Bool.not_false, Bool.and_true]
  have : decide (e.remaining > 0) = true := by simpa using hrem
  simp only [this, if_true]
  exact reportError_relays w st .other hg hopen ht

/-- Non-vacuity: a re-encoding writer with two bytes of an envelope, a re-framing writer with three payload
    bytes missing - both meet the hypotheses. -/
example : let t : TW := { buffer := some [0, 0], expecting := 5, writingEnvelope := true }
    t.expecting ≠ -1 ∧ t.buffer.isSome = true ∧ (!(t.buffer.getD []).isEmpty || (!t.writingEnvelope && t.expecting > 0)) = true := by decide
example : let e : EW := { initialized := true, current := .down, remaining := 3 }
    e.err = false ∧ e.remaining > 0 ∧ (e.writingEnvelope && e.remaining == 5) = false := by decide

end Vanguard.C09
