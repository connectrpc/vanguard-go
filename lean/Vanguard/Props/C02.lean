import Vanguard.Lemmas.Headers
import Vanguard.Model.Run
import Vanguard.Lemmas.TargetHeaders
import Vanguard.Lemmas.ReframeStream
import Vanguard.Lemmas.WellFramed
/-!
  C02 — Backend sees only valid requests in a protocol, codec and compression it accepts.

  `negotiate` is the model of the negotiation block of `operation.validate`.  Proved for every method
  configuration, client form, codec and compression: the target protocol is one the service accepts,
  the target codec is one of its codecs, the target request compression is one of its compressions
  or none; and whatever of the client's triple is acceptable is kept rather than converted.
  Also proved, for every request that is converted (`transcodeRun`, any client, script and body): the
  backend request's **Content-Type is exactly the one the negotiated protocol and codec prescribe**
  (one value, whatever the client sent: `backend_content_type`), and a negotiated request compression
  is announced in the target protocol's own header with exactly its name (`backend_encoding_header`);
  no control header of the client's own protocol is left in the headers handed on (`no_leftover_control_headers`).
  The rest of the well-formedness of what the handler then receives (request line, content-type, control
  headers, envelopes with legal flags and exact lengths, compressed flag only under a declared
  compression, no contradicting left-over control header) is `oracleC02`, evaluated on every
  implementation observation, next to the field-by-field comparison with the model (`bm bp bq bh br`).
-/
namespace Vanguard.C02

theorem serverForm_proto (p : Proto) (st : StreamType) : (p.serverForm st).proto = p := by
  cases p <;> cases st <;> rfl

private theorem all_protos (p : Proto) : p ∈ allProtocols := by cases p <;> simp [allProtocols]

theorem target_protocol_accepted (m : MethodConf) (c : ClientForm) (codec comp : Bytes) (n : Negotiated)
    (hne : m.protocols ≠ []) (h : negotiate m c codec comp = some n) : n.sform.proto ∈ m.protocols := by
  obtain ⟨-, rfl⟩ := negotiate_some h
  simp only [serverForm_proto]
  unfold pickProto
  split
  · rename_i hc; simpa using hc
  · cases hf : allProtocols.find? (fun p => m.protocols.contains p) with
    | some p => have := List.find?_some hf; simpa using this
    | none =>
      exfalso
      rw [List.find?_eq_none] at hf
      cases hp : m.protocols with
      | nil => exact hne hp
      | cons p _ => have := hf p (all_protos p); simp [hp] at this

theorem target_codec_accepted (m : MethodConf) (c : ClientForm) (codec comp : Bytes) (n : Negotiated)
    (hne : m.codecs ≠ []) (h : negotiate m c codec comp = some n) : n.scodec ∈ m.codecs := by
  obtain ⟨-, rfl⟩ := negotiate_some h
  simp only
  split
  · rename_i hc; simpa using hc
  · cases hcs : m.codecs with
    | nil => exact absurd hcs hne
    | cons x _ => simp

theorem target_compression_accepted (m : MethodConf) (c : ClientForm) (codec comp z : Bytes) (n : Negotiated)
    (h : negotiate m c codec comp = some n) (hz : n.sReqComp = some z) : z ∈ m.compressors := by
  obtain ⟨-, rfl⟩ := negotiate_some h
  simp only at hz
  split at hz
  · rename_i hc
    cases hz
    simp only [Bool.and_eq_true] at hc
    simpa using hc.2
  · cases hz

/-- **Kept rather than converted.** An acceptable client protocol, codec and compression are each
    kept for the target leg. -/
theorem acceptable_is_kept (m : MethodConf) (c : ClientForm) (codec comp : Bytes) (n : Negotiated)
    (h : negotiate m c codec comp = some n) :
    (c.proto ∈ m.protocols → n.sform.proto = c.proto) ∧
    (codec ∈ m.codecs → n.scodec = codec) ∧
    (comp ≠ [] → comp ∈ m.compressors → n.sReqComp = some comp) ∧
    (comp = [] → n.sReqComp = none) := by
  obtain ⟨-, rfl⟩ := negotiate_some h
  refine ⟨fun hp => ?_, fun hc => ?_, fun hne hc => ?_, fun he => ?_⟩
  · simp only [serverForm_proto]; unfold pickProto; simp [hp]
  · simp [hc]
  · simp [List.isEmpty_eq_false_iff.mpr hne, hc]
  · simp [he]

/-- If validation succeeds, the target leg never is a REST leg without binding (it would be 404). -/
theorem no_unbound_rest_target (m : MethodConf) (c : ClientForm) (codec comp : Bytes) (n : Negotiated)
    (h : negotiate m c codec comp = some n) : n.sform.proto ≠ .rest := by
  obtain ⟨hr, rfl⟩ := negotiate_some h
  simpa only [serverForm_proto] using hr

/-- **The backend request carries the content type of the negotiated protocol and codec**, and only
    that one - whatever content type and other headers the client sent. -/
theorem backend_content_type (w : World) (sc : Scenario) (o : Op) (pl : HandlePlan) (st : St)
    (first : Option (Bytes × Bool)) (ct : Bytes) (h : o.sform.contentType o.scodec = some ct) :
    (transcodeRun w sc o pl st first).backend.headers.values (s "Content-Type") = [ct] := by
  rw [backend_header w sc o pl st first _ (some ct), Hdr.values_setOpt_some]
  generalize o.sform = p at h ⊢
  cases p <;> cases h <;> exact List.mem_cons_self

/-- **A negotiated request compression is announced in the target protocol's own header**, with
    exactly that name as its only value. -/
theorem backend_encoding_header (w : World) (sc : Scenario) (o : Op) (pl : HandlePlan) (st : St)
    (first : Option (Bytes × Bool)) (k z : Bytes) (hk : o.sform.encodingHeader = some k)
    (hz : o.sReqComp = some z) (hne : z.isEmpty = false) :
    (transcodeRun w sc o pl st first).backend.headers.values k = [z] := by
  rw [backend_header w sc o pl st first k (some z), Hdr.values_setOpt_some]
  generalize o.sform = p at hk ⊢
  -- the entry after `Content-Type` in the table of each protocol
  cases p <;> cases hk <;> simp only [ServerForm.requestControls, hz, Option.getD_some, hne] <;> exact .tail _ (.head _)

/-- **The fixed markers of the target protocol**: the request handed to a gRPC backend says `Te: trailers`, the one
    handed to a unary Connect backend `Connect-Protocol-Version: 1` - exactly once, whatever the client sent under
    these names. -/
theorem backend_protocol_markers (w : World) (sc : Scenario) (o : Op) (pl : HandlePlan) (st : St)
    (first : Option (Bytes × Bool)) :
    (o.sform = .grpc → (transcodeRun w sc o pl st first).backend.headers.values (s "Te") = [s "trailers"]) ∧
    (o.sform = .connectUnary →
      (transcodeRun w sc o pl st first).backend.headers.values (s "Connect-Protocol-Version") = [s "1"]) := by
  constructor <;> intro hp
  · rw [backend_header w sc o pl st first _ (some (s "trailers")), Hdr.values_setOpt_some]
    simp only [hp, ServerForm.requestControls, List.mem_cons, true_or, or_true]
  · rw [backend_header w sc o pl st first _ (some (s "1")), Hdr.values_setOpt_some]
    simp only [hp, ServerForm.requestControls, List.mem_cons, true_or, or_true]

/-- **No left-over control header**: after validation the headers handed on contain no control header
    of the client's own protocol and no `Content-Encoding` / `Accept-Encoding` / `Content-Length`, so the
    target protocol's headers added afterwards cannot be contradicted by them. -/
theorem no_leftover_control_headers (w : World) (t : TConf) (r : Req) (o : Op) (hv : validate w t r = .ok o) :
    (∀ k ∈ o.cform.ownControlNames, o.headers.has k = false) ∧
    o.headers.has (s "Content-Encoding") = false ∧ o.headers.has (s "Accept-Encoding") = false ∧
    o.headers.has (s "Content-Length") = false := by
  rw [(validate_ok hv).headers_eq]
  have hd := Hdr.has_foldl_del
    (o.cform.ownControlNames ++ [s "Content-Encoding", s "Accept-Encoding", s "Content-Length"]) r.headers
  exact ⟨fun k hk => hd k (List.mem_append_left _ hk), hd _ (by simp), hd _ (by simp), hd _ (by simp)⟩

/-- Non-vacuity: the content types and encoding headers of the four RPC target forms. -/
example : ServerForm.grpcWeb.contentType (s "proto") = some (s "application/grpc-web+" ++ s "proto") := rfl
example : ServerForm.connectUnary.encodingHeader = some (s "Content-Encoding") := rfl

/-- The four length bytes of an envelope decode to the length that was encoded (below 2^32). -/
theorem fromBe32_be32 (n : Nat) (h : n < 4294967296) :
    ∀ a b c d, be32 n = [a, b, c, d] → fromBe32 a b c d = n := by
  intro a b c d hb
  simp only [be32, List.cons.injEq, and_true] at hb
  obtain ⟨rfl, rfl, rfl, rfl⟩ := hb
  exact fromBe32_ofNat n h

/-- **The envelopes the backend reads describe the bytes that follow them** (re-framing path): for every
    legal client frame the envelope written for the backend (`reframedAll` in C01 is the concatenation of
    these envelopes and the payloads) carries exactly the compressed bit of the client's frame as its flag
    byte and the payload's length as its length field. -/
theorem backend_envelopes_describe_their_payloads (ce se : Enveloper) (x : Frame) (maxMsg : Nat) (hok : x.ok ce maxMsg)
    (hlt : x.payload.length < 4294967296) :
    ∃ env a b c d, ce.decode x.f x.a x.b x.c x.d = some env ∧
      se.encode env = [if env.compressed then 1 else 0, a, b, c, d] ∧ fromBe32 a b c d = x.payload.length := by
  obtain ⟨env, hdec, hnt, hlen, _⟩ := hok
  exact ⟨env, _, _, _, _, hdec, se.encode_data env hnt, hlen ▸ fromBe32_ofNat env.length (hlen ▸ hlt)⟩

/-!
  `WellFramed` (`Lemmas/WellFramed.lean`): a sequence of five-byte envelopes - flag byte 0 or 1, big-endian
  length - each followed by exactly as many payload bytes as it announces. -/

/-- **Re-encoding path**: for a well-formed request body (legal client frames, every message convertible)
    a backend with envelopes reads, whatever its buffer sizes, a well-framed stream and then `io.EOF`. -/
theorem backend_body_is_well_framed (w : World) (pl : HandlePlan) (ce se : Enveloper) (fs : List Frame)
    (st : St) (ns : List Nat) (out o : Bytes) (e : Err)
    (hprep : pl.clientReqNeedsPrep = false) (hce : st.op.clientEnveloper = some ce) (hse : st.op.serverEnveloper = some se)
    (hok : ∀ x ∈ fs, x.ok ce st.op.conf.maxMsg) (hd : st.src.data = framesBytes fs)
    (he : st.src.ending ≠ .unexpected) (hconv : convertedAll w pl st ce fs = some out)
    (hmax : st.op.conf.maxMsg < 4294967296) (hreads : Reads w pl st {} ns o e) : WellFramed o ∧ e = .eof := by
  have hs := clean_stream w pl ce hprep fs st false out hce hok hd he hconv
  have hr := hreads.stream ⟨by decide, fun h => by simp at h⟩ rfl
  obtain ⟨h1, h2⟩ := hr.det hs
  exact ⟨h1 ▸ convertedAll_wellFramed w pl st ce se hse hmax fs out hconv, h2⟩

/-- **Re-framing path**: the same for a backend that is handed the client's payloads under its own envelopes. -/
theorem backend_body_is_well_framed_reframed (w : World) (ce se : Enveloper) (st : St) (fs : List Frame)
    (ns : List Nat) (o : Bytes) (e : Err)
    (hce : st.op.clientEnveloper = some ce) (hse : st.op.serverEnveloper = some se)
    (hok : ∀ x ∈ fs, x.ok ce st.op.conf.maxMsg) (hd : st.src.data = framesBytes fs) (he : st.src.ending ≠ .unexpected)
    (hmax : st.op.conf.maxMsg < 4294967296) (hreads : EReads w st {} ns o e) : WellFramed o ∧ e = .eof := by
  obtain ⟨h1, h2⟩ := reframed_clean_stream w ce se st fs ns o e hce hse hok hd he hreads
  exact ⟨h1 ▸ reframedAll_wellFramed ce se _ hmax fs hok, h2⟩

end Vanguard.C02
