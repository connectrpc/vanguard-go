import Vanguard.Lemmas.Timeout
import Vanguard.Lemmas.List
import Vanguard.Gen.Facts
/-!
  C12 — Deadlines are propagated to the backend and never extended.
-/
namespace Vanguard.C12

/-- **Grpc-Timeout, every header value.**  A syntactically valid value (1–8 digits and a unit) is
    never rejected and is conveyed exactly, or treated as unbounded beyond eight hours; a definitely
    malformed value is rejected (before any dispatch); an absent header stays absent. -/
theorem grpc_extract_spec (s : Bytes) : Spec.grpcExtractOk s (grpcExtractTimeout s) = true := by
  unfold Spec.grpcExtractOk grpcExtractTimeout
  by_cases hs : s.isEmpty = true
  · simp [hs]
  · simp only [hs, Bool.false_eq_true, if_false]
    unfold Spec.grpcValue grpcDecodeTimeout Spec.grpcDefinitelyMalformed
    cases s.getLast? with
    | none => simp
    | some u =>
      generalize s.dropLast = ds
      obtain ⟨hu, _, _⟩ := grpcUnit_spec u
      by_cases h0 : grpcUnit u = 0
      · simp [hu, h0]
      · simp only [hu, h0, beq_iff_eq, if_false]
        by_cases hd : (Spec.allDigits ds && decide (1 ≤ ds.length) && decide (ds.length ≤ 8)) = true
        · -- valid value: conveyed exactly, or more than eight hours
          obtain ⟨n, hp, hlt, hpi⟩ := parseInt64_of_grammar hd (by decide)
          simp only [hd, if_true, hpi, hp, show ¬ ((n : Int) < 0) by omega, show ¬ ((n : Int) > 99999999) by omega]
          by_cases hh : (grpcUnit u == 3600000000000 && decide ((n : Int) > 8)) = true
          · simp only [hh, if_true]
            simp only [Bool.and_eq_true, beq_iff_eq, decide_eq_true_eq] at hh
            simp [hh.1, Spec.eightHours]; omega
          · simp [hh]
        · -- not a valid value: rejected whenever definitely malformed
          simp only [hd, Bool.false_eq_true, if_false, Option.isNone_some, Bool.false_or]
          by_cases hm : Spec.numberMalformed ds = true
          · simp [hm, parseInt64_malformed _ hm]
          · simp [hm]

private theorem grpcValue_format (k : Nat) (u : UInt8) (size : Int) (hu : Spec.unitNanos u = some size)
    (hk : k < 100000000) : Spec.grpcValue (formatNat k ++ [u]) = some ((k : Int) * size) := by
  have hlen := (formatNat_length_le_iff 7 k).mpr hk
  have h1 := List.length_pos_iff.mpr (formatNat_ne_nil k)
  simp [Spec.grpcValue, hu, Spec.allDigits, formatNat_allDigits, Nat.succ_le_of_lt h1, hlen, parseNat_formatNat]

private theorem grpcEncode_shape (d : Int) (h0 : 0 < d) (hmax : d < 2^63) :
    ∃ size u, Spec.unitNanos u = some size ∧ 0 < size ∧ d / size < 100000000 ∧
      grpcEncodeTimeout d = formatInt (d / size) ++ [u] := by
  fun_cases grpcEncodeTimeout d
  case case1 h => omega
  case case2 h => exact ⟨1, 0x6E, rfl, by decide, by rwa [Int.ediv_one], by rw [Int.ediv_one]⟩
  case case3 h => exact ⟨1000, 0x75, rfl, by decide, Int.ediv_lt_of_lt_mul (by decide) h, rfl⟩
  case case4 h => exact ⟨1000000, 0x6D, rfl, by decide, Int.ediv_lt_of_lt_mul (by decide) h, rfl⟩
  case case5 h => exact ⟨1000000000, 0x53, rfl, by decide, Int.ediv_lt_of_lt_mul (by decide) h, rfl⟩
  case case6 h => exact ⟨60000000000, 0x4D, rfl, by decide, Int.ediv_lt_of_lt_mul (by decide) h, rfl⟩
  case case7 => exact ⟨3600000000000, 0x48, rfl, by decide, Int.ediv_lt_of_lt_mul (by decide) (by omega), rfl⟩

/-- **grpcEncodeTimeout, every int64 duration.**  The text is a valid `Grpc-Timeout` (1–8 digits and a
    unit); its value never exceeds the duration and falls short of it by less than the unit used. -/
theorem grpc_encode_spec (d : Int) (hmax : d < 2^63) : Spec.grpcEncodeOk d (grpcEncodeTimeout d) = true := by
  by_cases h0 : d ≤ 0
  · unfold Spec.grpcEncodeOk grpcEncodeTimeout; simp [h0]
  · obtain ⟨size, u, hu, hs, hq, he⟩ := grpcEncode_shape d (by omega) hmax
    unfold Spec.grpcEncodeOk
    simp only [h0, if_false, he]
    have hq0 : 0 ≤ d / size := Int.ediv_nonneg (by omega) (by omega)
    rw [formatInt_nonneg _ hq0, grpcValue_format _ u size hu (by omega)]
    simp only [List.getLast?_append, List.getLast?_singleton, Option.some_or, Option.bind_eq_bind, Option.bind_some, hu]
    have e : ((d / size).toNat : Int) = d / size := by omega
    rw [e]
    have h1 := Int.ediv_mul_le d (Int.ne_of_gt hs)
    have h2 := Int.lt_ediv_add_one_mul_self d hs
    have h3 : (d / size + 1) * size = d / size * size + size := by rw [Int.add_mul]; omega
    simp; omega

/-- The overflow test of `connectExtractTimeout` is complete: if `wrap64 (10^6·n) / 10^6 = n`
    (truncated division) then the product did not wrap. -/
theorem connect_no_silent_wrap (n : Int) (h0 : 0 ≤ n) (h : n < 2^63)
    (hd : Int.tdiv (wrap64 (1000000 * n)) 1000000 = n) : wrap64 (1000000 * n) = 1000000 * n :=
  wrap64_mul_of_tdiv n hd


/-- **Connect-Timeout-Ms, every header value.**  1–10 digits are never rejected and conveyed exactly
    (the int64 overflow test in the source is complete: no valid value wraps); malformed or negative
    values are rejected; an absent header stays absent. -/
theorem connect_extract_spec (s : Bytes) : Spec.connectExtractOk s (connectExtractTimeout s) = true := by
  unfold Spec.connectExtractOk
  by_cases hs : s.isEmpty = true
  · rw [List.isEmpty_iff.mp hs]; rfl
  · have hne : s ≠ [] := by simpa using hs
    rw [if_neg hs, connectExtractTimeout_eq (by simpa using hs)]
    unfold Spec.connectValue
    by_cases hd : (Spec.allDigits s && decide (1 ≤ s.length) && decide (s.length ≤ 10)) = true
    · -- 1 to 10 digits: conveyed exactly
      obtain ⟨n, hp, hlt, hpi⟩ := parseInt64_of_grammar hd (by decide)
      rw [if_pos hd, hp, hpi, Option.bind_some, if_neg (by omega), if_pos (by omega)]
      simp [Int.mul_comm]
    · rw [if_neg hd]
      unfold Spec.connectDefinitelyMalformed
      cases s with
      | nil => exact absurd rfl hne
      | cons c rest =>
        simp only
        by_cases hm : Spec.numberMalformed (c :: rest) = true
        · simp only [hm, Bool.true_or, if_true, parseInt64_malformed _ hm]; rfl
        · by_cases hneg : (c == 0x2D && rest.any (· != 0x30)) = true
          · -- negative: not a number, or a number below zero
            simp only [hneg, Bool.or_true, if_true]
            simp only [Bool.and_eq_true, beq_iff_eq] at hneg
            cases hp : parseInt64 (c :: rest) with
            | none => rfl
            | some n => rw [Option.bind_some, if_pos (parseInt64_neg (hneg.1 ▸ hp) hneg.2)]; rfl
          · simp only [hm, hneg, Bool.or_false, Bool.false_eq_true, if_false]
            -- more than ten digits: rejected (≥ 2^63) or conveyed / clamped, never shortened
            unfold Spec.connectOverlong
            by_cases ho : (Spec.allDigits (c :: rest) && decide ((c :: rest).length > 10)) = true
            · rw [if_pos ho]
              simp only [Bool.and_eq_true, decide_eq_true_eq] at ho
              obtain ⟨n, hp, _, hpi⟩ := parseInt64_digits _ hne ho.1
              rw [hp, hpi]
              by_cases h63 : n ≥ 2^63
              · rw [if_pos h63]; rfl
              · rw [if_neg h63, Option.bind_some, if_neg (by omega)]
                by_cases hf : 1000000 * (n : Int) < 2^63
                · rw [if_pos hf]; simp [Spec.overlongOk]; omega
                · rw [if_neg hf]; simp [Spec.overlongOk, maxInt64]; exact decide_eq_true (by omega)
            · rw [if_neg ho]

/-- **connectEncodeTimeout, every non-negative int64 duration.**  1–10 digits of milliseconds; never
    more than the duration; short by less than one millisecond unless clamped to 9999999999. -/
theorem connect_encode_spec (d : Int) (h0 : 0 ≤ d) : Spec.connectEncodeOk d (connectEncodeTimeout d) = true := by
  unfold Spec.connectEncodeOk connectEncodeTimeout
  simp only [show ¬ d < 0 by omega, if_false]
  rw [Int.tdiv_eq_ediv_of_nonneg h0, formatInt_nonneg _ (by omega)]
  have hlen := formatNat_length_le_iff 9 (d / 1000000).toNat
  by_cases hl : (formatNat (d / 1000000).toNat).length > 10
  · simp only [hl, if_true]
    have : Spec.connectValue [0x39, 0x39, 0x39, 0x39, 0x39, 0x39, 0x39, 0x39, 0x39, 0x39] = some 9999999999000000 := by decide
    simp only [this]
    simp; omega
  · simp only [hl, if_false]
    have h1 := List.length_pos_iff.mpr (formatNat_ne_nil (d / 1000000).toNat)
    simp [Spec.connectValue, Spec.allDigits, formatNat_allDigits, Nat.succ_le_of_lt h1, Nat.le_of_not_lt hl,
      parseNat_formatNat]
    omega

theorem grpc_range (s : Bytes) (d : Int) (h : grpcExtractTimeout s = some (some d)) : 0 ≤ d ∧ d < 2^63 := by
  unfold grpcExtractTimeout at h
  split at h
  · cases h
  · split at h <;> cases h
    rename_i hdec
    obtain ⟨u, num, rfl, h0, h8, hH⟩ := grpcDecodeTimeout_ok hdec
    obtain ⟨_, hpos, hu | hu⟩ := grpcUnit_spec u
    · have := hH hu; rw [hu]; omega
    · have : num * grpcUnit u ≤ 99999999 * 60000000000 := Int.mul_le_mul h8 hu hpos (by omega)
      exact ⟨Int.mul_nonneg h0 hpos, by omega⟩

theorem connect_range (s : Bytes) (d : Int) (h : connectExtractTimeout s = some (some d)) : 0 ≤ d ∧ d < 2^63 := by
  have hne : s.isEmpty = false := by cases s with | nil => cases h | cons _ _ => rfl
  rw [connectExtractTimeout_eq hne] at h
  cases hp : parseInt64 s with
  | none => rw [hp] at h; cases h
  | some n =>
    rw [hp, Option.bind_some] at h
    by_cases hn : n < 0
    · rw [if_pos hn] at h; cases h
    · rw [if_neg hn] at h; cases h
      unfold maxInt64
      split <;> omega

/-- **Propagation across protocols.**  For each client encoding and each target encoding: a timeout the
    client sent is re-encoded for the backend as a valid value that does not exceed the client's and
    is short of it by less than the target's rounding unit; no timeout stays no timeout. -/
theorem propagation (s : Bytes) :
    (∀ d, grpcExtractTimeout s = some (some d) →
        Spec.grpcEncodeOk d (grpcEncodeTimeout d) = true ∧ Spec.connectEncodeOk d (connectEncodeTimeout d) = true) ∧
    (∀ d, connectExtractTimeout s = some (some d) →
        Spec.grpcEncodeOk d (grpcEncodeTimeout d) = true ∧ Spec.connectEncodeOk d (connectEncodeTimeout d) = true) ∧
    grpcExtractTimeout [] = some none ∧ connectExtractTimeout [] = some none := by
  refine ⟨fun d h => ?_, fun d h => ?_, by decide, by decide⟩
  · have r := grpc_range s d h
    exact ⟨grpc_encode_spec d r.2, connect_encode_spec d r.1⟩
  · have r := connect_range s d h
    exact ⟨grpc_encode_spec d r.2, connect_encode_spec d r.1⟩

/-- Non-vacuity: concrete headers exercising the hypotheses. -/
example : grpcExtractTimeout [0x31, 0x35, 0x53] = some (some 15000000000) := by decide
example : grpcExtractTimeout [0x39, 0x48] = some none := by decide
example : grpcExtractTimeout [0x31, 0x73] = none := by decide
example : connectExtractTimeout [0x32, 0x35, 0x30] = some (some 250000000) := by decide

/-! ### the model's timeout codecs are the ones in the source as it reads now

  `Vanguard.Gen` is regenerated from `protocol_grpc.go` / `protocol_connect.go` on every run
  (`extract/`): the unit switch, the digit and hour bounds with their comparison operators, the ladder
  of `grpcEncodeTimeout`, the length bound and clamp text of `connectEncodeTimeout`.  The theorems
  below state that the model's functions are exactly the functions these facts describe - for every
  input; a change of any of them in the source breaks the theorem. -/

/-- `a <op> b` with the operator the source uses (`strict` = `>`). -/
def over (strict : Bool) (a b : Int) : Bool := if strict then decide (a > b) else decide (a ≥ b)

/-- `grpcTimeoutUnitLookup` as the source's switch reads. -/
def grpcUnitSrc (c : UInt8) : Int := ((Gen.grpcUnits.find? fun p => p.1 == c.toNat).map (·.2)).getD Gen.grpcUnitDefault

theorem source_grpc_units_is_model : ∀ c : UInt8, grpcUnit c = grpcUnitSrc c := by
  intro c
  -- the rows are keyed by the byte's value; off the rows the byte is on no rung of the model's ladder, because each
  -- rung's byte has a row
  have := List.switch_table Gen.grpcUnits id Gen.grpcUnitDefault (fun n => grpcUnit (UInt8.ofNat n)) (by decide) c.toNat
    fun hoff => by
      rw [UInt8.ofNat_toNat]
      fun_cases grpcUnit c
      case case7 => rfl
      all_goals (rename_i h; rw [beq_iff_eq.mp h] at hoff; exact absurd hoff (by decide))
  rwa [UInt8.ofNat_toNat] at this

/-- `grpcDecodeTimeout` with the bounds and operators of the source. -/
def grpcDecodeTimeoutSrc (s : Bytes) : TimeoutRes :=
  match s.getLast? with
  | none => .noTimeout
  | some u =>
    let unit := grpcUnitSrc u
    if unit == 0 then .err else
    match parseInt64 s.dropLast with
    | none => .err
    | some num =>
      if num < 0 then .err
      else if over Gen.grpcTimeoutMaxNumStrict num Gen.grpcTimeoutMaxNum then .err
      else if unit == 3600000000000 && over Gen.grpcTimeoutMaxHoursStrict num Gen.grpcTimeoutMaxHours then .noTimeout
      else .ok (num * unit)

theorem source_grpc_decode_is_model (s : Bytes) : grpcDecodeTimeout s = grpcDecodeTimeoutSrc s := by
  unfold grpcDecodeTimeout grpcDecodeTimeoutSrc
  cases s.getLast? with
  | none => rfl
  | some u =>
    simp only [source_grpc_units_is_model u]
    have h1 : ∀ n : Int, over Gen.grpcTimeoutMaxNumStrict n Gen.grpcTimeoutMaxNum = decide (n > 99999999) := fun n => rfl
    have h2 : ∀ n : Int, over Gen.grpcTimeoutMaxHoursStrict n Gen.grpcTimeoutMaxHours = decide (n > 8) := fun n => rfl
    simp only [h1, h2, decide_eq_true_eq]
    by_cases hu : (grpcUnitSrc u == 0) = true
    · simp only [hu, if_true]
    · simp only [hu, Bool.false_eq_true, if_false]
      cases parseInt64 (List.dropLast s) <;> rfl

/-- `grpcEncodeTimeout` with the ladder of the source. -/
def grpcEncodeTimeoutSrc (d : Int) : Bytes :=
  if d ≤ 0 then [0x30, 0x6E]
  else match Gen.grpcEncodeLadder.find? fun r => decide (d < r.1 * Gen.grpcTimeoutMaxValue) with
    | some r => formatInt (d / r.2.1) ++ [UInt8.ofNat r.2.2]
    | none => formatInt (d / Gen.grpcEncodeDefault.1) ++ [UInt8.ofNat Gen.grpcEncodeDefault.2]

theorem source_grpc_encode_is_model (d : Int) : grpcEncodeTimeout d = grpcEncodeTimeoutSrc d := by
  -- on each rung of the model's ladder, the tests passed and failed so far pick the same row of the source's
  fun_cases grpcEncodeTimeout d <;>
    simp [grpcEncodeTimeoutSrc, Gen.grpcEncodeLadder, Gen.grpcTimeoutMaxValue, Gen.grpcEncodeDefault, List.find?, *]

/-- `connectEncodeTimeout` with the length bound and clamp text of the source. -/
def connectEncodeTimeoutSrc (d : Int) : Bytes :=
  let s := formatInt (Int.tdiv d 1000000)
  if over Gen.connectTimeoutMaxLenStrict s.length Gen.connectTimeoutMaxLen then Gen.connectTimeoutClamp.map UInt8.ofNat else s

theorem source_connect_encode_is_model (d : Int) : connectEncodeTimeout d = connectEncodeTimeoutSrc d := by
  unfold connectEncodeTimeout connectEncodeTimeoutSrc
  have h : ∀ n : Nat, over Gen.connectTimeoutMaxLenStrict n Gen.connectTimeoutMaxLen = decide (n > 10) := by
    intro n; simp [over, Gen.connectTimeoutMaxLenStrict, Gen.connectTimeoutMaxLen]; omega
  simp only [h, decide_eq_true_eq]
  rfl

end Vanguard.C12
