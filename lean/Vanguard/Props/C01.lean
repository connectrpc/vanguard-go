import Vanguard.Model.Run
import Vanguard.Lemmas.CleanStream
import Vanguard.Lemmas.ReframeStream
import Vanguard.Lemmas.RespStream
import Vanguard.Lemmas.ReframeSplit
import Vanguard.Model.World
/-!
  C01 — Messages arrive intact across every protocol, codec and compression pairing.

  Codecs and compressors are not vanguard's code; they enter as a `World` with the laws
  `WorldLaws` (decode∘encode = id, decompress∘compress = id, compressed output is never empty —
  every real format has a header).  Proved for *every* such world, codec pair, compression pair and
  per-message compressed flag: `message.advanceToStage` (`transformMsg`) turns the wire form of a
  value under the sender's codec/compression into the wire form of the *same value* under the
  receiver's codec/compression — on the fast path, the recompress path and the re-encode path — and
  fails only if an external step fails.
  Whole-stream fidelity (count, order, no duplication, per-frame flags, all adapter paths) is the
  oracle `oracleC01`, evaluated on the implementation for every clean generated scenario against the
  scenario's ground truth (values sent by the client / by the backend), next to the byte-exact
  comparison of model and implementation.
  **Whole request streams on the re-encoding path** (`backend_reads_exactly_the_messages`): for a request
  body that is any sequence of legal frames within the limit, each of which can be converted, a backend
  handler that reads with *any* buffer sizes (≥ 1) until the body ends is given exactly the
  concatenation, in order, of the backend envelope and the converted form of every message - no
  message dropped, duplicated, reordered, cut or merged - and then a clean `io.EOF` (`clean_stream` +
  uniqueness of the stream + every `Read` a prefix step).
  Partial: the same induction for the re-framing path and for the response direction is not a theorem.
-/
namespace Vanguard.C01

/-- What is assumed of the code vanguard does not own. -/
structure WorldLaws (w : World) : Prop where
  codec_roundtrip : ∀ c v, w.decode c (w.encode c v) = some v
  compress_roundtrip : ∀ z b, w.decompress z (w.compress z b) = some b
  compress_nonempty : ∀ z b, w.compress z b ≠ []

/-- Wire form of value `v`: encoded, and compressed when the frame says so and a compression is set. -/
def wire (w : World) (codec : Bytes) (comp : Option Bytes) (compressed : Bool) (v : Bytes) : Bytes :=
  match compressed, comp with
  | true, some z => w.compress z (w.encode codec v)
  | _, _ => w.encode codec v

/-- **Re-encode path** (codecs differ): the same value comes out in the receiver's wire form
    (the inflated payload has to fit the buffer limit, otherwise see C10). -/
theorem reencode_carries_value (w : World) (L : WorldLaws w) (limit : Nat) (sameCompression wasCompressed : Bool)
    (zc zs : Option Bytes) (cc sc v : Bytes) (hfit : (w.encode cc v).length ≤ limit) :
    transformMsg w limit false sameCompression wasCompressed zc zs cc sc (wire w cc zc wasCompressed v)
      = .ok (wire w sc zs wasCompressed v) := by
  have hnot : ¬ (w.encode cc v).length > limit := by omega
  unfold transformMsg wire decompressLimited
  cases wasCompressed <;> cases zc <;> cases zs <;>
    simp [L.codec_roundtrip, L.compress_roundtrip, L.compress_nonempty, hnot]

/-- **Recompress path** (same codec, compressed frame, compressions differ): the payload is
    decompressed with the sender's and recompressed with the receiver's compression. -/
theorem recompress_carries_payload (w : World) (L : WorldLaws w) (limit : Nat) (zc zs : Option Bytes)
    (c payload : Bytes) (hfit : payload.length ≤ limit) :
    transformMsg w limit true false true zc zs c c (match zc with | some z => w.compress z payload | none => payload)
      = .ok (match zs with | some z => w.compress z payload | none => payload) := by
  have hnot : ¬ payload.length > limit := by omega
  unfold transformMsg decompressLimited
  cases zc <;> cases zs <;> simp [L.compress_roundtrip, L.compress_nonempty, hnot]
  all_goals split <;> simp_all

/-- **Fast path** (same codec; frame uncompressed or same compression): the bytes are untouched. -/
theorem fast_path_identity (w : World) (limit : Nat) (sameCompression wasCompressed : Bool) (zc zs : Option Bytes)
    (c data : Bytes) (h : (!wasCompressed || sameCompression) = true) :
    transformMsg w limit true sameCompression wasCompressed zc zs c c data = .ok data := by
  unfold transformMsg; simp [h]

/-- The receiver gets the sender's value back, whatever path was taken (re-encode case shown;
    this is what "field-for-field content" means at the level of the abstract message value). -/
theorem receiver_decodes_senders_value (w : World) (L : WorldLaws w) (limit : Nat) (sameCompression wasCompressed : Bool)
    (zc zs : Option Bytes) (cc sc v : Bytes) (hfit : (w.encode cc v).length ≤ limit) :
    ∃ out, transformMsg w limit false sameCompression wasCompressed zc zs cc sc (wire w cc zc wasCompressed v) = .ok out ∧
      (match wasCompressed, zs with
        | true, some z => (w.decompress z out).bind (w.decode sc)
        | _, _ => w.decode sc out) = some v := by
  refine ⟨_, reencode_carries_value w L limit sameCompression wasCompressed zc zs cc sc v hfit, ?_⟩
  unfold wire
  cases wasCompressed <;> cases zs <;> simp [L.codec_roundtrip, L.compress_roundtrip]

/-- Failure is visible: if the payload does not decode, the transformation is an error (and the
    caller reports it as the RPC's outcome) — never altered data. -/
theorem undecodable_payload_is_error (w : World) (limit : Nat) (sameCompression : Bool) (zc zs : Option Bytes)
    (cc sc data : Bytes) (h : w.decode cc data = none) :
    transformMsg w limit false sameCompression false zc zs cc sc data = .error .other := by
  unfold transformMsg; simp [h]

/-- **The backend reads exactly the client's messages** (re-encoding path, every sequence of read sizes):
    `fs` the client's frames (legal, within the limit), `out` the concatenation of their converted
    forms with the backend's envelopes (`convertedAll`); a handler reading with sizes `ns` until the body
    reports an error has been given exactly `out`, and the error is `io.EOF`. -/
theorem backend_reads_exactly_the_messages (w : World) (pl : HandlePlan) (ce : Enveloper) (fs : List Frame)
    (st : St) (ns : List Nat) (out o : Bytes) (e : Err)
    (hprep : pl.clientReqNeedsPrep = false) (hce : st.op.clientEnveloper = some ce)
    (hok : ∀ x ∈ fs, x.ok ce st.op.conf.maxMsg) (hd : st.src.data = framesBytes fs)
    (he : st.src.ending ≠ .unexpected) (hconv : convertedAll w pl st ce fs = some out)
    (hreads : Reads w pl st {} ns o e) : o = out ∧ e = .eof := by
  have hs := clean_stream w pl ce hprep fs st false out hce hok hd he hconv
  have hr := hreads.stream ⟨by decide, fun h => by simp at h⟩ rfl
  exact hr.det hs

/-- Non-vacuity (kernel-evaluated): gRPC-Web client (codec `raw`), gRPC backend (codec `hexa`), body =
    the frame `00 00 00 00 02 | 07 08`: the client's enveloper is the gRPC-Web one, the frame is legal and
    within the limit, the body is `framesBytes` of it, and its conversion is the backend envelope
    `00 00 00 00 04` followed by `"0708"`. -/
def dConf : MethodConf := { path := s "/p.S/M", streamType := .unary, noSideEffects := false, protocols := [.grpc], codecs := [hexaName], compressors := [], maxMsg := 100, maxGetURL := 100 }
def dOp : Op := { conf := dConf, cform := .grpcWeb, sform := .grpc, reqMeta := {}, ccodec := rawName, scodec := hexaName, cReqComp := none, sReqComp := none, headers := [], contentLen := -1, query := [], reqMethod := sPOST }
def dSt : St := { op := dOp, src := { chunks := [[0, 0, 0, 0, 2, 7], [8]], ending := .eof }, sink := {} }
example : dSt.op.clientEnveloper = some .grpcWebClient := by decide +kernel
example : (⟨0, 0, 0, 0, 2, [7, 8]⟩ : Frame).ok .grpcWebClient dSt.op.conf.maxMsg :=
  ⟨{ length := 2 }, by decide, rfl, rfl, by decide +kernel⟩
example : dSt.src.data = framesBytes [⟨0, 0, 0, 0, 2, [7, 8]⟩] := by decide +kernel
example : convertedAll fakeWorld (dOp.plan fakeWorld) dSt .grpcWebClient [⟨0, 0, 0, 0, 2, [7, 8]⟩]
    = some [0, 0, 0, 0, 4, 48, 55, 48, 56] := by decide +kernel
example : (dOp.plan fakeWorld).clientReqNeedsPrep = false := by decide +kernel

/-- **The backend reads exactly the client's messages on the re-framing path** (same codec and
    compression on both sides, both protocols with envelopes; every sequence of read sizes, every
    segmentation of the body): `fs` the client's frames (legal, within the limit); a handler reading
    with sizes `ns` until the body reports an error has been given, for every frame, the backend's own
    envelope followed by the untouched payload (`reframedAll`), and the error is `io.EOF`. -/
theorem backend_reads_exactly_the_messages_reframed (w : World) (ce se : Enveloper) (st : St) (fs : List Frame)
    (ns : List Nat) (o : Bytes) (e : Err)
    (hce : st.op.clientEnveloper = some ce) (hse : st.op.serverEnveloper = some se)
    (hok : ∀ x ∈ fs, x.ok ce st.op.conf.maxMsg) (hd : st.src.data = framesBytes fs) (he : st.src.ending ≠ .unexpected)
    (hreads : EReads w st {} ns o e) : o = reframedAll ce se fs ∧ e = .eof :=
  reframed_clean_stream w ce se st fs ns o e hce hse hok hd he hreads

/-- Non-vacuity (kernel-evaluated): the frame `00 00 00 00 02 | 07 08` arriving in two pieces, read with
    buffer sizes 3, 100, 100, 1, 9: the handler is given the backend's envelope and the payload, then `io.EOF`. -/
example : EReads fakeWorld dSt {} [3, 100, 100, 1, 9] [0, 0, 0, 0, 2, 7, 8] .eof := by
  refine .more _ _ _ _ [0, 0, 0] _ _ _ _ _ (by decide) rfl ?_
  refine .more _ _ _ _ [0, 2] _ _ _ _ _ (by decide) rfl ?_
  refine .more _ _ _ _ [7] _ _ _ _ _ (by decide) rfl ?_
  refine .more _ _ _ _ [8] _ _ _ _ _ (by decide) rfl ?_
  exact .last _ _ _ _ [] _ _ _ _ (by decide) rfl

/-- **The client receives exactly the backend's messages** (response direction, re-encoding path,
    streaming client): a backend that writes a whole well-formed response stream - legal frames in its
    own framing, every message convertible and within the limit (`respConvertedAll`) - makes the
    transcoder put exactly those messages on the client's connection, each converted and under the
    client's envelope, in order, flushed, without error or panic. -/
theorem client_receives_exactly_the_messages (w : World) (tb : Tables) (se cc : Enveloper) (st : St) (fs : List Frame) (outs : Bytes)
    (hb : st.rw.buf = none) (hse : st.op.serverEnveloper = some se) (hcc : st.op.clientEnveloper = some cc)
    (hok : ∀ x ∈ fs, x.ok se st.op.conf.maxMsg) (hconv : respConvertedAll w st se cc fs = some outs) :
    (twWrite w tb st {} (framesBytes fs)).2.2.1 = false ∧ (twWrite w tb st {} (framesBytes fs)).2.2.2 = false ∧
    rawBytes (twWrite w tb st {} (framesBytes fs)).1.sink.items = rawBytes st.sink.items ++ outs ∧
    (fs ≠ [] → (twWrite w tb st {} (framesBytes fs)).1.sink.flushedN
                = some (twWrite w tb st {} (framesBytes fs)).1.sink.items.length) :=
  twWrite_clean_stream w tb se cc st fs outs hb hse hcc hok hconv

/-- Non-vacuity (kernel-evaluated): a gRPC backend (codec `hexa`) answers a gRPC-Web client (codec `raw`)
    with the message "07" and an empty message: both convert, and the client is to receive `07` and the
    empty message under its own envelopes. -/
example : respConvertedAll fakeWorld dSt .grpcServer .grpcWebClient [⟨0, 0, 0, 0, 2, [0x30, 0x37]⟩, ⟨0, 0, 0, 0, 0, []⟩]
    = some [0, 0, 0, 0, 1, 7, 0, 0, 0, 0, 0] := by decide +kernel

/-- **The client receives exactly the backend's messages on the re-framing path** (response direction,
    same codec and compression on both sides, streaming client): a backend that writes a whole well-formed
    response stream makes the transcoder put exactly those payloads, untouched, each under the client's own
    envelope (`respReframedAll`), in order, flushed, on the client's connection, without error or panic. -/
theorem client_receives_exactly_the_messages_reframed (w : World) (tb : Tables) (se cc : Enveloper) (st : St) (fs : List Frame)
    (hb : st.rw.buf = none) (hse : st.op.serverEnveloper = some se) (hcc : st.op.clientEnveloper = some cc)
    (hok : ∀ x ∈ fs, x.ok se st.op.conf.maxMsg) :
    (ewWrite w tb st {} (framesBytes fs)).2.2.1 = false ∧ (ewWrite w tb st {} (framesBytes fs)).2.2.2 = false ∧
    rawBytes (ewWrite w tb st {} (framesBytes fs)).1.sink.items = rawBytes st.sink.items ++ respReframedAll se cc fs ∧
    (fs ≠ [] → (ewWrite w tb st {} (framesBytes fs)).1.sink.flushedN
                = some (ewWrite w tb st {} (framesBytes fs)).1.sink.items.length) := by
  obtain ⟨st', e', h, hraw, hfl⟩ := ewWrites_clean_flushed w tb se cc st fs [framesBytes fs] hb hse hcc hok (List.append_nil _)
  rw [ewWrite_fresh w tb se st _ hse, ← ewWrites_singleton, h]
  exact ⟨rfl, rfl, hraw, hfl⟩

/-- **... however the backend splits its output across `Write` calls** (re-framing path): for any sequence
    of pieces - cut inside envelopes, inside payloads, between messages, empty ones - whose concatenation is a
    sequence of legal frames, every `Write` succeeds and the client's connection carries exactly those
    payloads, untouched, each under the client's own envelope, in order (`ewWrites` = the calls one after the
    other; `Lemmas/ReframeSplit.lean`: the writer between two calls is a function of the bytes seen so far). -/
theorem client_receives_exactly_the_messages_reframed_any_split (w : World) (tb : Tables) (se cc : Enveloper) (st : St)
    (fs : List Frame) (pieces : List Bytes)
    (hb : st.rw.buf = none) (hse : st.op.serverEnveloper = some se) (hcc : st.op.clientEnveloper = some cc)
    (hok : ∀ x ∈ fs, x.ok se st.op.conf.maxMsg) (hp : pieces.flatten = framesBytes fs) :
    ∃ st' e', ewWrites w tb st { initialized := true, writingEnvelope := true, remaining := 5 } pieces = (st', e', false, false) ∧
      rawBytes st'.sink.items = rawBytes st.sink.items ++ respReframedAll se cc fs :=
  ewWrites_clean_stream w tb se cc st fs pieces hb hse hcc hok hp

/-- The writer state the theorem starts from is the fresh writer after `maybeInit`. -/
theorem fresh_writer_is_initialised (w : World) (tb : Tables) (se : Enveloper) (st : St) (d : Bytes)
    (hse : st.op.serverEnveloper = some se) :
    ewWrite w tb st {} d = ewWrite w tb st { initialized := true, writingEnvelope := true, remaining := 5 } d :=
  ewWrite_fresh w tb se st d hse

/-- Non-vacuity (kernel-evaluated): the stream `00 00000002 07 08 | 00 00000000` written as `00 00`, `00 00 02 07`,
    ``, `08 00 00 00 00 00` reaches a gRPC-Web client as the same bytes, no error. -/
def splitDemo := ewWrites fakeWorld {} { dSt with op := { dOp with scodec := rawName } }
  { initialized := true, writingEnvelope := true, remaining := 5 } [[0, 0], [0, 0, 2, 7], [], [8, 0, 0, 0, 0, 0]]
example : (rawBytes splitDemo.1.sink.items, splitDemo.2.2.1, splitDemo.2.2.2) = ([0, 0, 0, 0, 2, 7, 8, 0, 0, 0, 0, 0], false, false) := by
  decide +kernel

/-- Non-vacuity (kernel-evaluated): the frames `00 00000002 | 07 08` and an empty one are legal for a gRPC
    backend under the limit of `dSt`, and re-framed for a gRPC-Web client they keep their payloads. -/
example : (∀ x ∈ [(⟨0, 0, 0, 0, 2, [7, 8]⟩ : Frame), ⟨0, 0, 0, 0, 0, []⟩], x.ok .grpcServer dSt.op.conf.maxMsg) ∧
    respReframedAll .grpcServer .grpcWebClient [⟨0, 0, 0, 0, 2, [7, 8]⟩, ⟨0, 0, 0, 0, 0, []⟩] = [0, 0, 0, 0, 2, 7, 8, 0, 0, 0, 0, 0] := by
  refine ⟨?_, by decide +kernel⟩
  intro x hx
  simp only [List.mem_cons, List.mem_nil_iff, or_false] at hx
  rcases hx with rfl | rfl
  · exact ⟨{ compressed := false, trailer := false, length := 2 }, by decide +kernel, rfl, rfl, by decide +kernel⟩
  · exact ⟨{ compressed := false, trailer := false, length := 0 }, by decide +kernel, rfl, rfl, by decide +kernel⟩

end Vanguard.C01
