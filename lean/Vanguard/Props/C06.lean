import Vanguard.Lemmas.UInt8
import Vanguard.Lemmas.Router
import Vanguard.Lemmas.PathEscape
import Vanguard.Lemmas.Captures
import Vanguard.Gen.Facts
/-!
  C06 — Routing dispatches exactly the method whose binding matches the request.
  Theorems about `findTarget` (the trie walk) for *every* route table, path, verb and method.
  The one hypothesis of the whole-outcome theorem `route_match_spec` - captures lie inside their
  template - is proved of every table built by `routeTrie.insert` from parsed templates
  (`built_tables_capture_in_range`), which gives `route_match_spec_built` and
  `route_match_never_panics`.
-/
namespace Vanguard.C06
open Vanguard.Spec

/-- **Dispatch only on a match.**  If the walk returns a binding, that binding is in the table, its
    HTTP method is the request's (or the wildcard), its verb is the request's and its template
    matches the request path under the declarative matcher. -/
theorem find_target_sound (verb method : Bytes) (path : List Bytes) (routes : List Route) (r' : Route)
    (h : findTarget routes path verb method = .target r') :
    ∃ r ∈ routes, r' = { r with segs := [] } ∧ r.verb = verb ∧
      (r.method = method ∨ r.method = wildcardMethod) ∧ segMatch r.segs path = true := by
  obtain ⟨pat, hm, he, _⟩ := findTarget_node h nofun
  obtain ⟨r, hr, rfl, hv, hmeth, rfl⟩ := he ▸ getTarget_node pat routes verb method
  exact ⟨r, hr, rfl, hv, hmeth, hm⟩

/-- **405 only for a matching path.**  A method set is returned only if it is non-empty, does not
    contain the request's method (nor the wildcard), and every method in it belongs to a binding of
    the table whose template matches the request path and verb. -/
theorem find_methods_sound (verb method : Bytes) (path : List Bytes) (routes : List Route) (ms : List Bytes)
    (h : findTarget routes path verb method = .methods ms) :
    ms ≠ [] ∧ method ∉ ms ∧ wildcardMethod ∉ ms ∧
    ∀ m ∈ ms, ∃ r ∈ routes, r.method = m ∧ routeMatches path verb r = true := by
  obtain ⟨pat, hm, he, _⟩ := findTarget_node h nofun
  obtain ⟨h1, h2, h3, h4⟩ := he ▸ getTarget_node pat routes verb method
  refine ⟨h1, h2, h3, fun m hmem => ?_⟩
  obtain ⟨r, hr, rfl, hv, hxm⟩ := (h4 m).mp hmem
  exact ⟨r, hr, hxm, by simp [routeMatches, hm, hv]⟩

/-- **Completeness: a matching template is never answered 404.**  If the walk finds nothing, no
    binding of the table matches the request path and verb. -/
theorem find_none_complete (verb method : Bytes) (path : List Bytes) (routes : List Route)
    (h : findTarget routes path verb method = .none) : ∀ r ∈ routes, routeMatches path verb r = false :=
  findTarget_eq_none.mp h

/-- **404 exactly when nothing matches.**  Converse direction: if no binding matches the path and
    verb the walk finds nothing (so the request gets 404 / the unknown-endpoint handler). -/
theorem no_match_404 (verb method : Bytes) (path : List Bytes) (routes : List Route)
    (h : ∀ r ∈ routes, routeMatches path verb r = false) : findTarget routes path verb method = .none :=
  findTarget_eq_none.mpr h

/-- **Literal precedence.**  If some binding's template is literally the request path (and verb),
    the outcome is decided among exactly those bindings (`litRoutes`): the walk never prefers a
    wildcard template over it, for any table. -/
theorem literal_precedence (verb method : Bytes) (path : List Bytes) (routes : List Route)
    (h : ∃ r ∈ routes, r.segs = path ∧ r.verb = verb) :
    findTarget routes path verb method = getTarget (litRoutes path routes) verb method :=
  findTarget_literal verb method path routes h

/-- **Order independence.**  Two tables holding the same bindings in a different registration
    order (and no two bindings with the same segments, verb and method — which `insert` enforces,
    see `accepted_tables_have_distinct_keys`) give the same outcome for every path, verb and method:
    the same binding, or the same `Allow` set, or 404. -/
theorem order_independent (verb method : Bytes) (path : List Bytes) (l₁ l₂ : List Route)
    (hp : l₁.Perm l₂) (hk : KeyInj l₁) :
    FoundEq (findTarget l₁ path verb method) (findTarget l₂ path verb method) := by
  rw [findTarget_eq, findTarget_eq]
  induction nodes path with
  | nil => trivial
  | cons pat _ ih => exact (getTarget_perm (hp.filterMap _) (keyInj_litRoutes hk) verb method).or ih

/-- Every table `addRoutes` accepts has pairwise distinct (segments, verb, method) keys. -/
theorem accepted_tables_have_distinct_keys (rules : List (Bytes × Bytes)) (routes : List Route)
    (h : addRoutes 0 [] rules = .ok routes) : KeyInj routes := by
  refine addRoutes_induction h (fun _ ha => nomatch ha) fun acc i method text t hk _ hnew a ha b hb hkey => ?_
  simp only [List.mem_append, List.mem_singleton] at ha hb
  simp only [key, Prod.mk.injEq] at hkey
  rcases ha with ha | rfl <;> rcases hb with hb | rfl
  · exact hk a ha b hb (by simpa [key] using hkey)
  · exact absurd hkey (hnew a ha)
  · exact absurd ⟨hkey.1.symm, hkey.2.1.symm, hkey.2.2.symm⟩ (hnew b hb)
  · rfl

/-- **Captures are decoded exactly once (single-segment variables).**  Decoding the canonical
    escaping of any byte string gives the string back, so a captured value is the client's value. -/
theorem unescape_escape_single (s : Bytes) : pathUnescape .single (pathEscape .single s) = some s :=
  Vanguard.unescape_escape_single s

/-- `%2F` stays encoded in multi-segment captures and `%25` is decoded once (witnesses). -/
example : pathUnescape .multi [0x61, 0x25, 0x32, 0x46, 0x62] = some [0x61, 0x25, 0x32, 0x46, 0x62] := by decide
example : pathUnescape .single [0x61, 0x25, 0x32, 0x46, 0x62] = some [0x61, 0x2F, 0x62] := by decide
example : pathUnescape .single [0x31, 0x30, 0x30, 0x25, 0x32, 0x35] = some [0x31, 0x30, 0x30, 0x25] := by decide

/-- Variable ranges of every binding lie inside its template, so capturing from a path the
    template matches cannot slice out of range (established by the parser; validated by the
    correspondence; stated as an explicit hypothesis here). -/
def CapturesInRange (routes : List Route) : Prop :=
  ∀ r ∈ routes, ∀ path, segMatch r.segs path = true → captureAll path r.tmpl.vars ≠ .panic

/-- **The whole `routeTrie.match` outcome satisfies the routing oracle**, for every table, raw path
    and HTTP method: dispatch only to a matching binding with the spec's captures, `Allow` only
    from matching bindings, 404 only when nothing matches, literal templates first.  The same
    `routeOutcomeOk` is what the check evaluates on the implementation's results. -/
theorem route_match_spec (routes : List Route) (uriPath method : Bytes) (hc : CapturesInRange routes) :
    routeOutcomeOk routes uriPath method (routeMatch routes uriPath method) = true := by
  unfold routeOutcomeOk routeMatch
  split
  · rename_i rest
    split
    · simp
    · simp only
      generalize hpv : splitVerb (splitOnByte 0x2F rest) = pv
      obtain ⟨path, verb⟩ := pv
      simp only
      -- a result other than 404 is `getTarget`'s at the node of a matching template `pat` (`findTarget_node`);
      -- the bindings with that template are among the literal ones, or there are no literal ones
      have lits : ∀ pat, ((∃ r ∈ routes, r.segs = path ∧ r.verb = verb) → pat = path) → ∀ w ∈ routes, w.segs = pat →
          ((routes.filter (routeMatches path verb)).filter (fun r => r.segs == path)).isEmpty = true ∨ w.segs = path := by
        intro pat hpat w _ hw
        by_cases hl : ∃ r ∈ routes, r.segs = path ∧ r.verb = verb
        · exact .inr (hw.trans (hpat hl))
        · refine .inl ?_
          simp only [List.isEmpty_iff, List.filter_eq_nil_iff, List.mem_filter, routeMatches, Bool.and_eq_true,
            beq_iff_eq, and_imp]
          exact fun x hx _ hv hs => hl ⟨x, hx, hs, hv⟩
      have hg := fun pat => getTarget_node pat routes verb method
      cases hres : findTarget routes path verb method with
      | none => simp only [List.isEmpty_iff, List.filter_eq_nil_iff, Bool.or_eq_true]; exact .inl fun r hr => by simp [findTarget_eq_none.mp hres r hr]
      | methods ms =>
        obtain ⟨pat, hm, he, hpat⟩ := findTarget_node hres nofun
        obtain ⟨h1, h2, h3, h4⟩ := he ▸ hg pat
        simp only [Bool.and_eq_true, Bool.not_eq_true', List.isEmpty_eq_false_iff, List.all_eq_true,
          List.any_eq_true, List.mem_filter, Bool.or_eq_true, beq_iff_eq, List.contains_eq_mem,
          decide_eq_false_iff_not]
        refine ⟨⟨⟨h1, h2⟩, h3⟩, fun m hmem => ?_⟩
        obtain ⟨w, hw, hws, hv, hxm⟩ := (h4 m).mp hmem
        exact ⟨w, ⟨hw, by simp [routeMatches, hws, hm, hv]⟩, hxm, lits pat hpat w hw hws⟩
      | target r' =>
        obtain ⟨pat, hm, he, hpat⟩ := findTarget_node hres nofun
        obtain ⟨w, hw, hws, hv, hmeth, rfl⟩ := he ▸ hg pat
        have hmatch : routeMatches path verb w = true := by simp [routeMatches, hws, hm, hv]
        simp only
        cases hcap : captureAll path w.tmpl.vars with
        | panic => exact absurd hcap (hc w hw path (hws ▸ hm))
        | err =>
          simp only [List.any_eq_true, List.mem_filter, Bool.or_eq_true, beq_iff_eq]
          exact .inr ⟨w, ⟨hw, hmatch⟩, hcap⟩
        | ok vars =>
          simp only [List.any_eq_true, List.mem_filter, Bool.and_eq_true, Bool.or_eq_true, beq_iff_eq]
          exact ⟨w, ⟨hw, hmatch⟩, ⟨⟨rfl, hmeth⟩, hcap⟩, lits pat hpat w hw hws⟩
  · simp

/-- Non-vacuity: a two-route table where the wildcard route matches and the literal one does not. -/
example :
    let t : Template := { segs := [], verb := [], vars := [] }
    let lit : Route := { segs := [[0x61], [0x62]], verb := [], method := [0x47], idx := 0, tmpl := t }
    let wild : Route := { segs := [[0x61], starSeg], verb := [], method := [0x47], idx := 1, tmpl := t }
    (match findTarget [lit, wild] [[0x61], [0x63]] [] [0x47] with | .target r => r.idx | _ => 99) = 1 := by
  decide

/-- **Tables built by `routeTrie.insert` have their captures in range**: every template the parser
    accepts keeps each bounded variable inside its segments, and a matched path is at least as long as
    the template. -/
theorem built_tables_capture_in_range (rules : List (Bytes × Bytes)) (routes : List Route)
    (h : addRoutes 0 [] rules = .ok routes) : CapturesInRange routes := by
  have hok : ∀ r ∈ routes, VarsIn r.tmpl.vars r.segs.length := by
    refine addRoutes_induction (P := fun routes => ∀ r ∈ routes, VarsIn r.tmpl.vars r.segs.length) h
      (fun _ hr => nomatch hr) fun acc i method text t hacc ht _ r hr => ?_
    rcases List.mem_append.mp hr with hr | hr
    · exact hacc r hr
    · cases List.mem_singleton.mp hr; exact parseTemplate_ok ht
  exact fun r hr path hm => captureAll_no_panic path _ ((hok r hr).mono (segMatch_length _ _ hm))

/-- **`route_match_spec` without hypothesis** for every table of bindings the transcoder accepts. -/
theorem route_match_spec_built (rules : List (Bytes × Bytes)) (routes : List Route)
    (h : addRoutes 0 [] rules = .ok routes) (uriPath method : Bytes) :
    routeOutcomeOk routes uriPath method (routeMatch routes uriPath method) = true :=
  route_match_spec routes uriPath method (built_tables_capture_in_range rules routes h)

/-- **Routing never panics** on a table the transcoder accepted, whatever the request path and method
    (no capture slices out of range). -/
theorem route_match_never_panics (rules : List (Bytes × Bytes)) (routes : List Route)
    (h : addRoutes 0 [] rules = .ok routes) (uriPath method : Bytes) :
    routeMatch routes uriPath method ≠ .panic := by
  intro hp
  have := route_match_spec_built rules routes h uriPath method
  rw [hp] at this
  unfold routeOutcomeOk at this
  split at this
  · split at this
    · simp at this
    · simp at this
  · simp at this

/-- Non-vacuity: a table with a bounded and an unbounded capture is accepted. -/
example : (addRoutes 0 [] [("GET".toUTF8.toList, "/v1/{name=shelves/*}/books/{rest=**}".toUTF8.toList)]).toOption.isSome = true := by
  decide +kernel

/-! ### the character classes of the model are the ones in the source as it reads now

  `Gen.*Src` are translated expression by expression from `path_scanner.go` / `path_parser.go` on every
  run (`extract/`).  For every byte the model's class is the source's; a change of a bound, an operator or
  a character in the source breaks this theorem. -/

theorem source_char_classes_are_model : ∀ c : UInt8,
    isIdentStart c = Gen.isIdentStartSrc c ∧ isDigitC c = Gen.isDigitSrc c ∧ isIdent c = Gen.isIdentSrc c ∧
    isFieldPath c = Gen.isFieldPathSrc c ∧ isVariable c = Gen.isVariableSrc c ∧ isLiteral c = Gen.isLiteralSrc c ∧
    (!isVariable c) = Gen.pathShouldEscapeSrc c :=
  forall_uint8 (by decide +kernel)

end Vanguard.C06
