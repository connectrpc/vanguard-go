import Vanguard.Model.Run
import Vanguard.Lemmas.Validate
import Vanguard.Gen.Facts
/-!
  C18 — At most one backend dispatch per request, none if rejected; context released.

  `serve` records which handler (if any) was invoked.  Proved: a request that `validate` rejects with
  an HTTP error is never dispatched (for every configuration, request and backend script); an
  unknown endpoint is dispatched to the unknown-endpoint handler only, and only if one is configured.
  Also proved: a request whose backend request cannot be built (undecodable leading message for a
  Connect GET target) reaches no handler and leaves the backend record empty
  (`setup_error_no_dispatch`, `undecodable_leading_message_no_dispatch`); exactly when a service
  handler runs (`svc_dispatch_iff`) and exactly when the unknown-endpoint handler runs
  (`unknown_dispatch_iff`).
  "At most one" is structural in the model (one `dispatch` per observation) and is *measured* on the
  implementation by the harness (call counter of the scripted handlers, `disp=MULTIPLE`); context
  cancellation after return (`ctx=1`) and absence of post-return I/O are observed by the harness.
-/
namespace Vanguard.C18

/-- Which handler `serve` invokes, as a function of what `validate` and the set-up of the conversion answer:
    every statement about the dispatch below reads one row of this table. -/
def dispatchOf (w : World) (sc : Scenario) : Dispatch :=
  match validate w sc.conf sc.req with
  | .error .notFound => if sc.conf.unknownHandler then .unknown else .none
  | .error (.status _ _) => .none
  | .ok o =>
    if o.passThrough then .svc
    else match transcodePre w o (o.plan w) { op := o, src := sc.src, sink := {} } with
      | .error _ => .none
      | .ok _ => .svc

theorem serve_dispatch (w : World) (sc : Scenario) : (serve w sc).dispatch = dispatchOf w sc := by
  simp only [serve, dispatchOf]
  cases validate w sc.conf sc.req with
  | error e => cases e <;> simp only <;> split <;> rfl
  | ok o =>
    simp only
    split
    · split <;> rfl
    · simp only [serveTranscode]
      cases transcodePre w o (o.plan w) { op := o, src := sc.src, sink := {} } <;> rfl

/-- A rejected request leaves the backend untouched: no handler is invoked, nothing is read from or
    written by a handler (the backend record stays empty), whatever the backend would have done. -/
theorem rejected_backend_untouched (w : World) (sc : Scenario) (code : Nat) (allow : Option Bytes)
    (h : validate w sc.conf sc.req = .error (.status code allow)) :
    (serve w sc).dispatch = .none ∧ (serve w sc).backend = {} := by
  unfold serve; simp [h]

/-- **Setup errors**: when the backend's request cannot be built - a Connect GET target needs the
    leading message, and that message cannot be read or decoded - the RPC ends with the error
    response and no handler is invoked. -/
theorem setup_error_no_dispatch (w : World) (sc : Scenario) (o : Op) (x : Sink × Bool)
    (hv : validate w sc.conf sc.req = .ok o) (hp : o.passThrough = false)
    (hpre : transcodePre w o (o.plan w) { op := o, src := sc.src, sink := {} } = .error x) :
    (serve w sc).dispatch = .none ∧ (serve w sc).backend = {} ∧ (serve w sc).sink = x.1 := by
  unfold serve
  simp only [hv, hp, Bool.false_eq_true, if_false]
  unfold serveTranscode
  simp [hpre]

/-- An undecodable leading message is such a setup error. -/
theorem undecodable_leading_message_no_dispatch (w : World) (sc : Scenario) (o : Op) (data : Bytes) (c : Bool) (e : Err)
    (hv : validate w sc.conf sc.req = .ok o) (hp : o.passThrough = false) (hg : (o.plan w).useGet = true)
    (hr : (readRequestMessage w { op := o, src := sc.src, sink := {} } false).1 = .ok (data, c))
    (hd : decodeRequest w o (o.plan w) data c = .error e) :
    (serve w sc).dispatch = .none := by
  have : ∃ x, transcodePre w o (o.plan w) { op := o, src := sc.src, sink := {} } = .error x := by
    unfold transcodePre
    simp only [hg, if_true, hr, hd]
    exact ⟨_, rfl⟩
  obtain ⟨x, hx⟩ := this
  exact (setup_error_no_dispatch w sc o x hv hp hx).1

/-- **Exactly when a service handler runs**: the request passed validation and either needs no
    conversion or its backend request could be built. -/
theorem svc_dispatch_iff (w : World) (sc : Scenario) :
    (serve w sc).dispatch = .svc ↔
      ∃ o, validate w sc.conf sc.req = .ok o ∧
        (o.passThrough = true ∨ ∃ y, transcodePre w o (o.plan w) { op := o, src := sc.src, sink := {} } = .ok y) := by
  rw [serve_dispatch, dispatchOf]
  cases validate w sc.conf sc.req with
  | error e => cases e <;> simp; split <;> simp
  | ok o =>
    simp only [Except.ok.injEq, exists_eq_left']
    by_cases hp : o.passThrough = true
    · simp [hp]
    · cases transcodePre w o (o.plan w) { op := o, src := sc.src, sink := {} } <;> simp [hp]

/-- The handler that runs is the only one: the observation has a single dispatch, which is the
    unknown-endpoint handler exactly for unmatched paths with such a handler configured. -/
theorem unknown_dispatch_iff (w : World) (sc : Scenario) :
    (serve w sc).dispatch = .unknown ↔ validate w sc.conf sc.req = .error .notFound ∧ sc.conf.unknownHandler = true := by
  rw [serve_dispatch, dispatchOf]
  cases validate w sc.conf sc.req with
  | error e => cases e <;> simp
  | ok o =>
    -- a validated request goes to the service handler or to none
    simp only
    by_cases hp : o.passThrough = true
    · simp [hp]
    · cases transcodePre w o (o.plan w) { op := o, src := sc.src, sink := {} } <;> simp [hp]

/-! ### source tie: `classifyRequest`

  `Gen.classifyRequestSrc` is **translated from `classifyRequest` (transcoder.go) on every run**, statement by
  statement (header look-ups, `len` tests, the tagless `switch` with its `fallthrough`, every `return`), over the
  request's method, header values and first query values; the handler types it returns become the constructors of
  `Gen.ClientHandlerSrc`.  The theorem says that the model's classification *is* that function, for every request:
  a reordered case, a changed content-type prefix, a dropped `Connect-Protocol-Version` test or a new handler type
  breaks it. -/

def formOfHandler : Gen.ClientHandlerSrc → ClientForm
  | .connectUnaryGetClientProtocol => .connectGet
  | .connectUnaryPostClientProtocol => .connectPost
  | .connectStreamClientProtocol => .connectStream
  | .grpcClientProtocol => .grpc
  | .grpcWebClientProtocol => .grpcWeb
  | .restClientProtocol => .rest

/-- The source asks `len(l) == 1 && l[0] == a` where the model compares with the one-element list. -/
private theorem beq_singleton {α : Type} [BEq α] (l : List α) (a d : α) :
    (l == [a]) = (l.length == 1 && l.getD 0 d == a) := by
  rcases l with _ | ⟨x, _ | ⟨y, l⟩⟩ <;> simp

theorem source_classify_is_model (r : Req) :
    classifyRequest r = (Gen.classifyRequestSrc s hasPrefix r.method r.headers.values r.query.get).map formOfHandler := by
  have h1 : [0x31] = s "1" := by decide +kernel
  unfold classifyRequest Gen.classifyRequestSrc
  -- write the model's one-element test the source's way and translate the handlers at the leaves:
  -- for each number of `Content-Type` values the two are then the same tree of tests
  simp only [beq_singleton _ _ [], h1, apply_ite (Option.map formOfHandler), Option.map_some, Option.map_none,
    formOfHandler]
  generalize r.headers.values (s "Content-Type") = cts
  rcases cts with _ | ⟨ct, _ | ⟨ct2, rest⟩⟩ <;> rfl

/-- **A request the source's `classifyRequest` cannot classify reaches no handler** (it is answered 415), for
    every configuration and backend script. -/
theorem unclassifiable_request_no_dispatch (w : World) (sc : Scenario)
    (h : Gen.classifyRequestSrc s hasPrefix sc.req.method sc.req.headers.values sc.req.query.get = none) :
    (serve w sc).dispatch = .none := by
  refine (rejected_backend_untouched w sc 415 none ?_).1
  have hm := source_classify_is_model sc.req
  rw [h] at hm
  unfold validate
  rw [hm]; rfl

/-- Non-vacuity: two `Content-Type` values cannot be classified; `application/grpc+proto` is gRPC. -/
example : Gen.classifyRequestSrc s hasPrefix sPOST (fun k => if k == s "Content-Type" then [s "a/b", s "a/c"] else []) (fun _ => []) = none := by
  decide +kernel
example : Gen.classifyRequestSrc s hasPrefix sPOST (fun k => if k == s "Content-Type" then [s "application/grpc+proto"] else []) (fun _ => [])
    = some .grpcClientProtocol := by decide +kernel

/-! ### source tie: the small methods of the client protocol handlers

  `Gen.clientProtocolSrc`, `Gen.endMustBeInHeadersSrc` and `Gen.acceptsStreamTypeSrc` are translated on every run from
  the bodies of `protocol()`, `endMustBeInHeaders()` (an optional interface: a handler without the method answers
  false) and `acceptsStreamType()` of every handler type `classifyRequest` can return. -/

def streamOfSrc : Gen.StreamTypeSrc → StreamType
  | .Unary => .unary | .Client => .client | .Server => .server | .Bidi => .bidi

/-- The name of the `Protocol` constant (after the prefix `Protocol`). -/
def protoName : Proto → String
  | .connect => "Connect" | .grpc => "GRPC" | .grpcWeb => "GRPCWeb" | .rest => "REST"

/-- For every handler and stream type: the model's protocol, its answer to "must the end be in the head" (which
    decides whether the response is buffered: C16, C04) and the stream types it accepts (a rejection class of
    C18: 415) are the source's.  The two REST predicates over `google.api.HttpBody` methods are false in the
    modelled schema, which has no such method. -/
theorem source_handler_methods_are_model (h : Gen.ClientHandlerSrc) (st : Gen.StreamTypeSrc) :
    protoName (formOfHandler h).proto = Gen.clientProtocolSrc h ∧
    protoName (formOfHandler h).proto ∈ Gen.protocols ∧
    (formOfHandler h).endMustBeInHeaders = Gen.endMustBeInHeadersSrc h ∧
    (formOfHandler h).acceptsStreamType (streamOfSrc st) = Gen.acceptsStreamTypeSrc false false h st := by
  -- only the last depends on the stream type
  cases h <;> refine ⟨by decide, by decide, by decide, ?_⟩ <;> cases st <;> decide


/-- **A gRPC request that did not arrive over HTTP/2 is never validated** - whatever the method, the service's
    target protocols and the headers - and therefore reaches no service handler. -/
theorem grpc_needs_http2 (w : World) (t : TConf) (r : Req) (c : ClientForm) (hc : classifyRequest r = some c)
    (hp : c.proto = .grpc) (hv : r.protoMajor ≠ 2) : ∀ o, validate w t r ≠ .ok o := by
  intro o h
  have v := validate_ok h
  exact hv (v.grpc (v.cform_eq hc ▸ hp))

theorem grpc_over_http1_no_service_dispatch (w : World) (sc : Scenario) (c : ClientForm)
    (hc : classifyRequest sc.req = some c) (hp : c.proto = .grpc) (hv : sc.req.protoMajor ≠ 2) :
    (serve w sc).dispatch ≠ .svc := by
  intro h
  obtain ⟨o, ho, _⟩ := (svc_dispatch_iff w sc).1 h
  exact grpc_needs_http2 w sc.conf sc.req c hc hp hv o ho


/-- **A bidirectional method needs HTTP/2**: a request for one that arrived over HTTP/1 is never validated. -/
theorem bidi_needs_http2 (w : World) (t : TConf) (r : Req) (c : ClientForm) (m : MethodConf)
    (hc : classifyRequest r = some c) (hm : resolveMethod t c r = .ok m) (hb : m.streamType = .bidi)
    (hv : r.protoMajor < 2) : ∀ o, validate w t r ≠ .ok o := by
  intro o h
  have v := validate_ok h
  have := v.bidi (v.conf_eq hc hm ▸ hb)
  omega

/-- **A stream type the client's protocol cannot carry is rejected** (a streaming method called with a unary
    Connect request, a unary one with a Connect streaming request): never validated. -/
theorem unacceptable_stream_type_rejected (w : World) (t : TConf) (r : Req) (c : ClientForm) (m : MethodConf)
    (hc : classifyRequest r = some c) (hm : resolveMethod t c r = .ok m)
    (hs : c.acceptsStreamType m.streamType = false) : ∀ o, validate w t r ≠ .ok o := by
  intro o h
  have v := validate_ok h
  have := v.accepts
  rw [v.cform_eq hc, v.conf_eq hc hm, hs] at this
  cases this

/-- **A request in a codec the transcoder does not know is never validated** (unsupported codec: 415, no dispatch):
    every validated operation has a known client codec. -/
theorem validated_codec_known (w : World) (t : TConf) (r : Req) (o : Op) (hv : validate w t r = .ok o) :
    w.knownCodec o.ccodec = true := by
  have v := validate_ok hv
  rw [v.ccodec]
  exact v.codec

theorem resolveMethod_mem (t : TConf) (c : ClientForm) (r : Req) (m : MethodConf)
    (h : resolveMethod t c r = .ok m) : m ∈ t.methods ∧ m.path = r.path := by
  unfold resolveMethod at h
  cases hf : t.methods.find? (fun m => m.path == r.path) with
  | none => rw [hf] at h; cases h
  | some m' =>
    -- whatever the HTTP method, an answer `.ok` is the method found under the path
    have hm : m' = m := by
      rw [hf] at h
      simp only at h
      by_cases hp : (r.method != sPOST) = true
      · rw [if_pos hp] at h
        obtain ⟨-, h⟩ := Except.of_guard_eq_ok h
        obtain ⟨-, h⟩ := Except.of_guard_eq_ok h
        exact Except.ok.inj h
      · rw [if_neg hp] at h; exact Except.ok.inj h
    exact hm ▸ ⟨List.mem_of_find?_eq_some hf, by simpa using List.find?_some hf⟩

/-- **Only a configured method is ever served**: the method of a validated operation is one of the transcoder's
    methods, and it is the one the request path names (RPC-style paths `/<service>/<method>` resolve to exactly
    that method; an unknown method is never validated). -/
theorem validated_method_is_configured (w : World) (t : TConf) (r : Req) (o : Op) (hv : validate w t r = .ok o) :
    o.conf ∈ t.methods ∧ o.conf.path = r.path :=
  resolveMethod_mem t _ r _ (validate_ok hv).resolve

/-- **A request in a compression the transcoder does not know is never validated**: the request compression of
    every validated operation is either none (`identity` or absent) or a registered one. -/
theorem validated_compression_known (w : World) (t : TConf) (r : Req) (o : Op) (hv : validate w t r = .ok o) :
    o.reqMeta.compression.isEmpty = true ∨ o.reqMeta.compression = identityName ∨
      w.knownCompression o.reqMeta.compression = true := by
  simpa using (validate_ok hv).compression

end Vanguard.C18
