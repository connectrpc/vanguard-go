import Vanguard.Model.Config
import Vanguard.Spec.Config
import Vanguard.Props.C06
import Vanguard.Lemmas.List
import Vanguard.Gen.Facts
/-!
  # C17 — NewTranscoder accepts exactly the servable configurations and honours them

  `Model/Config.newTranscoder` mirrors the phases of `NewTranscoder` (option resolution,
  `registerService` per service in order, `registerRules`, REST-only check).  Theorems, for every
  schema and configuration:

  * **selectors** (`selector_spec`, `exact_selector_names_one`): a rule binds exactly the methods
    its selector names - the one method with that full name, or, for `p*`, the methods below the
    name boundary `p`; everything else is rejected as a selector.  On the pinned tree this failed
    (an exact selector was treated as a prefix; see known_findings.json, fixed);
  * **options** (`resolve_*`): for every option kind the last setting wins, per-service settings
    over transcoder-wide defaults over the built-in defaults;
  * **acceptance is sound** (`accepted_services_servable`, `accepted_rules_bind`,
    `accepted_methods_distinct`): an accepted configuration has servable options for every
    service, no method registered twice, and every rule has a well-formed selector naming at
    least one registered method;
  * **bindings are reachable** (`binding_never_404`): whatever else is in the table, a request
    whose path matches a binding's template is never answered "not found" (from C06).

  NOT proved (partial): completeness of acceptance (every servable configuration is accepted) and
  that the accepted tables are exactly the declared bindings - both are compared with the
  implementation on every configuration of the `config` stream (tables dumped through the `verif`
  hook, every binding probed with a URL built from its template).
-/
namespace Vanguard.C17
open Vanguard.Cfg Vanguard.Spec

/-- **A selector binds exactly the methods it names.** -/
theorem selector_spec (sel fullName : Bytes) :
    (match parseSelector sel with
      | .ok σ => σ.binds fullName
      | .error _ => false) = selectorNames sel fullName := by
  rcases sel.eq_nil_or_concat with rfl | ⟨p, x, rfl⟩
  · rfl
  · -- `sel = p ++ [x]`: the first `*` is in `p` (no selector), or is `x` (prefix `p`), or there is none (exact)
    rw [List.concat_eq_append]
    have hidx : (p ++ [x]).idxOf? 0x2A = (p.idxOf? 0x2A).or (if x == 0x2A then some p.length else none) := by
      simp only [List.idxOf?, List.findIdx?_append, List.findIdx?_cons, List.findIdx?_nil]
      cases x == 0x2A <;> simp
    simp only [parseSelector, selectorNames, hidx, List.length_append, List.length_singleton, Nat.add_sub_cancel,
      List.take_left', List.dropLast_concat, List.getLast?_concat, List.contains_append, List.contains_cons,
      List.contains_nil, Bool.or_false]
    by_cases hm : (0x2A : UInt8) ∈ p
    · obtain ⟨i, hi⟩ := Option.isSome_iff_exists.mp (List.isSome_idxOf?.mpr hm)
      obtain ⟨hlt, _⟩ := List.idxOf?_eq_some_iff.mp hi
      simp [hi, hm, Nat.ne_of_lt hlt]
    · rw [List.idxOf?_eq_none_iff.mpr hm]
      by_cases hx : x = 0x2A
      · subst hx
        by_cases hw : p = []
        · simp [hw, Selector.binds]
        · by_cases h2 : p.getLast? = some 0x2E <;> simp [hm, hw, h2, Selector.binds]
      · simp [hm, hx, Selector.binds, Bool.beq_comm]

/-- An exact selector names at most one method of a table without duplicate names. -/
theorem exact_selector_names_one (name : Bytes) (methods : List MethodReg)
    (hn : (methods.map (·.fullName)).Nodup) (m₁ m₂ : MethodReg) (h₁ : m₁ ∈ methods) (h₂ : m₂ ∈ methods)
    (b₁ : (Selector.exact name).binds m₁.fullName = true) (b₂ : (Selector.exact name).binds m₂.fullName = true) :
    m₁ = m₂ := by
  simp only [Selector.binds, beq_iff_eq] at b₁ b₂
  exact List.eq_of_nodup_map hn h₁ h₂ (b₁.trans b₂.symm)

/-- A method whose name merely starts with an exact selector is not bound (the pinned defect). -/
example : (match parseSelector [0x61, 0x2E, 0x47] with        -- "a.G"
    | .ok σ => σ.binds [0x61, 0x2E, 0x47, 0x42]                -- "a.GB"
    | .error _ => true) = false := by decide

theorem foldl_apply (l : List SvcOpt) (o : SvcOpts) :
    (l.foldl SvcOpts.apply o).protocols = (lastProtocols l).getD o.protocols ∧
    (l.foldl SvcOpts.apply o).maxMsg = (lastMaxMsg l).getD o.maxMsg ∧
    (l.foldl SvcOpts.apply o).codecs = (lastCodecs l).getD o.codecs ∧
    (l.foldl SvcOpts.apply o).compressors = (lastCompress l).getD o.compressors := by
  induction l generalizing o with
  | nil => exact ⟨rfl, rfl, rfl, rfl⟩
  | cons x rest ih =>
    obtain ⟨h1, h2, h3, h4⟩ := ih (o.apply x)
    simp only [List.foldl_cons, h1, h2, h3, h4, lastProtocols, lastMaxMsg, lastCodecs, lastCompress]
    -- a later setting hides `x`; without one, `x` sets the field or leaves it
    refine ⟨?_, ?_, ?_, ?_⟩
    · cases lastProtocols rest with | some _ => rfl | none => cases x <;> rfl
    · cases lastMaxMsg rest with | some _ => rfl | none => cases x <;> rfl
    · cases lastCodecs rest with | some _ => rfl | none => cases x <;> rfl
    · cases lastCompress rest with | some _ => rfl | none => cases x <;> rfl

theorem lastProtocols_append (a b : List SvcOpt) :
    lastProtocols (a ++ b) = (lastProtocols b).orElse fun _ => lastProtocols a := by
  induction a with
  | nil => cases h : lastProtocols b <;> simp [h, lastProtocols]
  | cons x rest ih =>
    simp only [List.cons_append, lastProtocols, ih]
    cases lastProtocols b with
    | some l | none => rfl

/-- **Per-service options override transcoder-wide defaults, which override the built-in ones**:
    the target protocols of a service are those of its own last `WithTargetProtocols`, else those of
    the last such default option, else Connect, gRPC and gRPC-Web. -/
theorem resolve_protocols (defaults own : List SvcOpt) :
    (resolveOpts defaults own).protocols =
      match lastProtocols own with
      | some l => l
      | none => match lastProtocols defaults with
        | some l => l
        | none => [1, 2, 3] := by
  unfold resolveOpts
  rw [(foldl_apply _ _).1, lastProtocols_append]
  cases lastProtocols own with
  | some l => rfl
  | none => cases lastProtocols defaults <;> rfl

/-- The same shape for the other options (stated for the whole option list). -/
theorem resolve_maxMsg (defaults own : List SvcOpt) :
    (resolveOpts defaults own).maxMsg = (lastMaxMsg (defaults ++ own)).getD 4294967295 :=
  (foldl_apply _ _).2.1

theorem resolve_codecs (defaults own : List SvcOpt) :
    (resolveOpts defaults own).codecs = (lastCodecs (defaults ++ own)).getD [nameProto, nameJson] :=
  (foldl_apply _ _).2.2.1

theorem resolve_compress (defaults own : List SvcOpt) :
    (resolveOpts defaults own).compressors = (lastCompress (defaults ++ own)).getD [nameGzip] :=
  (foldl_apply _ _).2.2.2

theorem ite_cons_eq_nil {α} {c : Prop} [Decidable c] {x : α} {xs l : List α} :
    (if c then x :: xs else l) = [] ↔ ¬ c ∧ l = [] := by
  split <;> simp [*]

theorem checkOpts_nil_iff (c : Config) (o : SvcOpts) : checkOpts c o = [] ↔ optsServable c o = true := by
  -- each `if` of `checkOpts` gives one conjunct `¬ c` (`ite_cons_eq_nil`); `optsServable` is the same seven as Booleans;
  -- the other lemmas bring the two sides to one form (`¬ any (! ·)` and `all`, `¬ (· == 0)` and `!=`)
  simp only [checkOpts, ite_cons_eq_nil, optsServable, Bool.and_eq_true, and_true, and_assoc, Bool.not_eq_true',
    List.any_eq_true, List.all_eq_true, not_exists, not_and, Bool.not_eq_false, bne_iff_ne, ne_eq, beq_iff_eq,
    Bool.not_eq_true]

theorem registerServices_cons {c : Config} {r : SvcReg} {rest : List SvcReg} {acc out : List MethodReg}
    (h : registerServices c (r :: rest) acc = .ok out) :
    ∃ sd, c.schema.services.find? (·.fullName == r.svc) = some sd ∧
      optsServable c (resolveOpts c.defaults r.opts) = true ∧
      (∀ m ∈ methodConfsOf sd (resolveOpts c.defaults r.opts), ∀ x ∈ acc, x.path ≠ m.path) ∧
      ((methodConfsOf sd (resolveOpts c.defaults r.opts)).map (·.path)).Nodup ∧
      registerServices c rest (acc ++ methodConfsOf sd (resolveOpts c.defaults r.opts)) = .ok out := by
  simp only [registerServices] at h
  split at h
  · cases h
  · rename_i sd hf
    split at h
    · cases h
    · rename_i hc
      split at h
      · cases h
      · rename_i hdup
        simp only [Bool.or_eq_true, not_or, Bool.not_eq_true, List.any_eq_false, Bool.not_eq_false',
          decide_eq_true_eq, beq_iff_eq] at hdup
        exact ⟨sd, hf, (checkOpts_nil_iff c _).mp hc, hdup.1, hdup.2, h⟩

theorem registerServices_servable (c : Config) : ∀ (regs : List SvcReg) (acc out : List MethodReg),
    registerServices c regs acc = .ok out →
    ∀ r ∈ regs, (c.schema.services.find? (·.fullName == r.svc)).isSome = true ∧
      optsServable c (resolveOpts c.defaults r.opts) = true := by
  intro regs
  induction regs with
  | nil => intro _ _ _ r hr; cases hr
  | cons r0 rest ih =>
    intro acc out h r hr
    obtain ⟨sd, hf, hs, _, _, h'⟩ := registerServices_cons h
    rcases List.mem_cons.mp hr with rfl | hr'
    · exact ⟨by rw [hf]; rfl, hs⟩
    · exact ih _ _ h' r hr'

theorem registerServices_distinct (c : Config) : ∀ (regs : List SvcReg) (acc out : List MethodReg),
    (acc.map (·.path)).Nodup → registerServices c regs acc = .ok out → (out.map (·.path)).Nodup := by
  intro regs
  induction regs with
  | nil => intro acc out hn h; cases h; exact hn
  | cons r0 rest ih =>
    intro acc out hn h
    obtain ⟨sd, _, _, hnew, hnd, h'⟩ := registerServices_cons h
    refine ih _ _ ?_ h'
    rw [List.map_append]
    refine List.nodup_append.mpr ⟨hn, hnd, fun a ha b hb hab => ?_⟩
    obtain ⟨x, hx, rfl⟩ := List.mem_map.mp ha
    obtain ⟨m, hm, rfl⟩ := List.mem_map.mp hb
    exact hnew m hm x hx hab

theorem matchRules_bind (methods : List MethodReg) : ∀ (rules : List Rule) (out : List (Selector × Rule)),
    matchRules methods rules = .ok out →
    ∀ r ∈ rules, ∃ m ∈ methods, selectorNames r.selector m.fullName = true := by
  intro rules
  induction rules with
  | nil => intro _ _ r hr; cases hr
  | cons r0 rest ih =>
    intro out h r hr
    unfold matchRules at h
    cases hp : parseSelector r0.selector with
    | error e => rw [hp] at h; cases h
    | ok sel =>
      rw [hp] at h
      cases hany : methods.any fun m => sel.binds m.fullName with
      | false => simp only [hany, Bool.not_false, if_true] at h; cases h
      | true =>
        simp only [hany, Bool.not_true, Bool.false_eq_true, if_false] at h
        rcases List.mem_cons.mp hr with rfl | hr'
        · obtain ⟨m, hmem, hb⟩ := List.any_eq_true.mp hany
          exact ⟨m, hmem, by rw [← selector_spec, hp]; exact hb⟩
        · cases hm : matchRules methods rest with
          | error e => rw [hm] at h; cases h
          | ok out' => exact ih out' hm r hr'

/-- **An accepted configuration is servable**: options of every service, distinct methods,
    selectors. -/
theorem accepted_sound (c : Config) (tb : CfgTables) (h : newTranscoder c = .ok tb) :
    (∀ r ∈ c.services, optsServable c (resolveOpts c.defaults r.opts) = true) ∧
    (∃ methods, registerServices c c.services [] = .ok methods ∧ (methods.map (·.path)).Nodup ∧
      ∀ r ∈ c.rules, ∃ m ∈ methods, selectorNames r.selector m.fullName = true) := by
  unfold newTranscoder at h
  cases hs : registerServices c c.services [] with
  | error e => rw [hs] at h; cases h
  | ok methods =>
    rw [hs] at h
    simp only at h
    cases hm : matchRules methods c.rules with
    | error e => rw [hm] at h; cases h
    | ok sels =>
      refine ⟨fun r hr => (registerServices_servable c c.services [] methods hs r hr).2, methods, rfl, ?_, ?_⟩
      · exact registerServices_distinct c c.services [] methods List.nodup_nil hs
      · exact matchRules_bind methods c.rules sels hm

/-- **A binding in the table is never answered "not found"**: whatever other bindings exist, a
    request whose path matches the binding's template (and verb) finds a target or, for another
    HTTP method, the list of allowed methods. -/
theorem binding_never_404 (routes : List Route) (r : Route) (hr : r ∈ routes) (path : List Bytes)
    (hm : segMatch r.segs path = true) (method : Bytes) :
    findTarget routes path r.verb method ≠ .none := by
  intro hnone
  have := C06.find_none_complete r.verb method path routes hnone r hr
  simp [routeMatches, hm] at this


/-! ### the built-in defaults of the model are the ones in the source (regenerated on every run) -/

theorem source_defaults_are_model :
    Gen.defaultMaxMessageBufferBytes = ({} : SvcOpts).maxMsg ∧ Gen.defaultMaxGetURLBytes = ({} : SvcOpts).maxGet := by decide

/-- The numbering of protocols used by the model (1 Connect, 2 gRPC, 3 gRPC-Web, 4 REST; the valid
    ones are 1..4) is the declaration order of the `Protocol` constants. -/
theorem source_protocol_order_is_model : Gen.protocols = ["Connect", "GRPC", "GRPCWeb", "REST"] := by decide

end Vanguard.C17
