import Vanguard.Props.C12
import Vanguard.Lemmas.TimeoutHeader
import Vanguard.Model.Run
/-!
  C12, second part — the timeout on its way through `ServeHTTP`.

  `Props/C12.lean` proves the codecs (every header value, every duration).  Here, for the model of a whole
  converted request: the timeout `operation.validate` keeps is what the client protocol's extraction read off
  the client's own header (`validate_timeout`), and `addProtocolRequestHeaders` of the target protocol writes
  exactly the target encoder's text for it into the target protocol's header of the backend request
  (`backend_timeout_header`); without a client timeout none is invented (`backend_without_timeout`).
  Together with the codec theorems: the value the backend reads never exceeds the client's and is short of it
  by less than the target's rounding unit (`client_timeout_reaches_backend`).
-/
namespace Vanguard.C12

/-- **A timeout the operation carries is in the backend request**, in the target protocol's own header, as the
    text that protocol's encoder makes of it (the Go code leaves out an empty text, hence `hne`). -/
theorem backend_timeout_header (w : World) (sc : Scenario) (o : Op) (pl : HandlePlan) (st : St)
    (first : Option (Bytes × Bool)) (k : Bytes) (d : Int) (hk : o.sform.timeoutHeader = some k)
    (hd : o.reqMeta.timeout = some d) (hne : (o.sform.timeoutText d).isEmpty = false) :
    (transcodeRun w sc o pl st first).backend.headers.values k = [o.sform.timeoutText d] := by
  rw [backend_header w sc o pl st first k (some (o.sform.timeoutText d)), Hdr.values_setOpt_some]
  generalize o.sform = p at hk hne ⊢
  -- the timeout's entry in the table of each protocol; the unary Connect one is under the condition `hne`
  cases p <;> cases hk <;> simp only [ServerForm.timeoutText] at hne ⊢ <;>
    simp only [ServerForm.requestControls, hd, Option.map_some, Option.bind_some, hne, Bool.false_eq_true, if_false,
      List.mem_cons, true_or, or_true]

/-- **No timeout is invented**: without one, the target protocol's timeout header of the backend request is
    whatever the headers handed on had under that name. -/
theorem backend_without_timeout (w : World) (sc : Scenario) (o : Op) (pl : HandlePlan) (st : St)
    (first : Option (Bytes × Bool)) (k : Bytes) (hk : o.sform.timeoutHeader = some k)
    (hd : o.reqMeta.timeout = none) :
    (transcodeRun w sc o pl st first).backend.headers.values k = o.headers.values k := by
  rw [backend_header w sc o pl st first k none, Hdr.setOpt]
  generalize o.sform = p at hk ⊢
  cases p <;> cases hk <;>
    simp only [ServerForm.requestControls, hd, Option.map_none, Option.bind_none, List.mem_cons, true_or, or_true]

/-- **From the client's header to the backend's**: for every validated request whose client header carries the
    timeout `d` (as the client protocol's own extraction reads it), the backend request has the target encoder's
    text for `d` in the target protocol's header, and that text is a valid value which does not exceed `d` and is
    short of it by less than the target's rounding unit. -/
theorem client_timeout_reaches_backend (w : World) (sc : Scenario) (o : Op) (pl : HandlePlan) (st : St)
    (first : Option (Bytes × Bool)) (k : Bytes) (d : Int)
    (hv : validate w sc.conf sc.req = .ok o) (hk : o.sform.timeoutHeader = some k)
    (hc : o.cform.timeoutOf sc.req.headers = some (some d)) (hne : (o.sform.timeoutText d).isEmpty = false) :
    (transcodeRun w sc o pl st first).backend.headers.values k = [o.sform.timeoutText d] ∧
    Spec.grpcEncodeOk d (grpcEncodeTimeout d) = true ∧ Spec.connectEncodeOk d (connectEncodeTimeout d) = true := by
  have ht := validate_timeout w sc.conf sc.req o hv
  rw [hc] at ht
  have hd : o.reqMeta.timeout = some d := by simpa using ht.symm
  refine ⟨backend_timeout_header w sc o pl st first k d hk hd hne, ?_⟩
  have hr : 0 ≤ d ∧ d < 2^63 := by
    -- in the order of `ClientForm`: connectGet, connectPost, connectStream; grpc, grpcWeb; rest (reads no timeout)
    cases hcf : o.cform <;> simp only [hcf, ClientForm.timeoutOf] at hc
    · exact connect_range _ d hc
    · exact connect_range _ d hc
    · exact connect_range _ d hc
    · exact grpc_range _ d hc
    · exact grpc_range _ d hc
    · simp at hc
  exact ⟨grpc_encode_spec d hr.2, connect_encode_spec d hr.1⟩

/-- A request without a timeout header keeps having none: the operation carries no timeout. -/
theorem no_client_timeout_no_backend_timeout (w : World) (sc : Scenario) (o : Op) (pl : HandlePlan) (st : St)
    (first : Option (Bytes × Bool)) (k : Bytes)
    (hv : validate w sc.conf sc.req = .ok o) (hk : o.sform.timeoutHeader = some k)
    (hc : o.cform.timeoutOf sc.req.headers = some none) :
    (transcodeRun w sc o pl st first).backend.headers.values k = o.headers.values k := by
  have ht := validate_timeout w sc.conf sc.req o hv
  rw [hc] at ht
  exact backend_without_timeout w sc o pl st first k hk (by simpa using ht.symm)

/-- Non-vacuity: the header names and a text. -/
example : ServerForm.grpcWeb.timeoutHeader = some (s "Grpc-Timeout") := rfl
example : ServerForm.connectUnary.timeoutText 250000000 = s "250" := by decide +kernel
example : ClientForm.grpc.timeoutOf [(s "Grpc-Timeout", [s "15S"])] = some (some 15000000000) := by decide +kernel


/-- **A malformed timeout is rejected before the backend is invoked**: when the client protocol's extraction cannot
    read the timeout header (`Grpc-Timeout: 1s`, `Connect-Timeout-Ms: abc`, ...), the request is never validated. -/
theorem malformed_timeout_rejected (w : World) (t : TConf) (r : Req) (c : ClientForm)
    (hc : classifyRequest r = some c) (hbad : c.timeoutOf r.headers = none) : ∀ o, validate w t r ≠ .ok o := by
  intro o h
  have ht := validate_timeout w t r o h
  rw [(validate_ok h).cform_eq hc, hbad] at ht
  cases ht

example : ClientForm.grpc.timeoutOf [(s "Grpc-Timeout", [s "1s"])] = none := by decide +kernel

end Vanguard.C12
