import Vanguard.Lemmas.Serve
import Vanguard.Lemmas.Frame
import Vanguard.Lemmas.ReadReach
import Vanguard.Lemmas.Outcome
import Vanguard.Lemmas.Source
import Vanguard.Lemmas.WriteLoops
/-!
  C11 — No input from client or backend can crash or wedge the transcoder.

  The model makes Go's partial operations partial (`httpStatusCodeFromRPC` indexing → `Option`,
  nil sinks and impossible slices → the `panic` flag).  Proved (in `Lemmas/Serve.lean`, restated here): every path that
  *reports* an outcome to the client — `reportError`, `reportEnd`, `flushHeaders`, for every state, error and
  client protocol — is panic-free, because the status lookup is total for every code (C04).
  And **the loop of `envelopingWriter.Write` terminates for every writer state and every byte string
  the backend writes** (`ewLoop_fuel`, `ewLoop_enough`): the model's loop is fuelled; the theorem
  shows by a decreasing measure (bytes left, envelope/body phase) that the fuel `Write` provides is
  never exhausted - more fuel never changes the result.  The decrease relies on the latch
  `if w.err != nil { return }` at the top of the loop, the very check whose removal makes the real
  loop spin (seeded change C11_1).  The same is proved for **the loop of `transformingWriter.Write`**
  (`twLoop_fuel`, `twLoop_enough`; the invariant it needs - fewer than five buffered bytes while an
  envelope is collected - is kept by the loop, `twLoop_keeps_inv`, and established by `reset`).
  (The termination theorems are in `Lemmas/WriteLoops.lean`, in this namespace.)
  **No `WriteHeader` and no `Write` of any handler ever panics** (`handler_writes_never_panic`): `Ready` -
  the response is consistent (C03's `Good`) and, once `WriteHeader` ran, the response is latched in an
  error or a well-formed body writer is installed - is an invariant of every handler script
  (`runScript_ready`: any reads of any size, header changes, `WriteHeader`, `Write` with any bytes split
  anywhere, `Flush`, `Close`), and in a `Ready` state `Write` and `WriteHeader` return without a panic
  (`rwWrite_safe`, `rwWriteHeader_safe`).  Underneath: the loops of both writers never take a
  slice out of range, never miss a sink or a decoder, never run out of fuel, and hand back a
  well-formed writer (`twLoop_safe`, `twWrite_safe`, `ewLoop_safe`, `ewWrite_safe`).
  The same for **`responseWriter.Close`** when the handler returns (`rwClose_no_panic`,
  `finish_never_panics`): the whole response side of `ServeHTTP` is panic-free.
  The request side: reading one message never panics (`readRequestMessage_no_panic`: a header that
  `io.ReadFull` delivered without error has five bytes; `io.Copy` from the limited reader never runs out
  of steps, `copyAllLimited_no_panic`), `envelopingReader.Read` never panics (`erRead_no_panic`), and
  the loop of `transformingReader.Read` always ends (`trRead_no_panic`: every round that goes on to
  the next message took something from the client's body, `readRequestMessage_consumes`).
  Together: **`serve_never_panics` - for every configuration, request, client body and backend
  script, `ServeHTTP` returns without a panic.**
  What the theorem does not cover: it is about the model; `panic=0` is also part of every compared
  observation of the correspondence, and a watchdog in the harness reports a call that does not
  return.  The REST request/response translation (`Model/Rest`) and `NewTranscoder` (`Model/Config`)
  are separate models whose panic-freedom is checked by the no-panic oracle over their streams.
-/
namespace Vanguard.C11

/-- The code → status lookup never indexes out of range, for any uint32 code. -/
theorem status_lookup_total (code : Nat) : (httpStatusFromRPC code).isSome = true :=
  httpStatusFromRPC_isSome code

/-- Rendering the response head never panics, whatever the end, client protocol or state. -/
theorem flush_headers_never_panics (w : World) (st : St) : (flushHeaders w st).2 = false :=
  flushHeaders_no_panic w st

theorem report_end_never_panics (w : World) (st : St) (e : RespEnd) : (reportEnd w st e).2 = false :=
  reportEnd_no_panic w st e

/-- Reporting an error never panics — in particular not for RPC codes outside 0..16 relayed from a
    backend (the pinned tree crashed on code 17 here). -/
theorem report_error_never_panics (w : World) (st : St) (err : Err) : (reportError w st err).2 = false :=
  reportError_no_panic w st err

/-- Non-vacuity: an out-of-range code on a Connect unary client goes through the lookup. -/
example : httpStatusFromRPC 17 = some 500 ∧ httpStatusFromRPC 4294967295 = some 500 := by decide

/-- Well-formedness of the re-encoding writer inside its enveloped loop: the backend's protocol has
    envelopes; while an envelope is collected five bytes are expected and fewer are there; while a
    message is collected no more than announced is there.  (`TwInv`, which termination needs, is its first
    part; `TwOk` below is what holds between two `Write` calls; likewise `EnvInv`, `EwWf`, `EwOk`.) -/
def TwWf (o : Op) (t : TW) : Prop :=
  t.err = false →
    o.serverEnveloper.isSome = true ∧
    (t.writingEnvelope = true → t.expecting = 5 ∧ (t.buffer.getD []).length < 5) ∧
    (t.writingEnvelope = false → ((t.buffer.getD []).length : Int) ≤ t.expecting)

theorem TwWf.latched (o : Op) (t : TW) (h : t.err = true) : TwWf o t := by
  intro h'; rw [h] at h'; cases h'

theorem TwWf.inv {o : Op} {t : TW} (h : TwWf o t) : TwInv t := fun he => (h he).2.1

theorem TwWf.of_inv {o : Op} {t : TW} (hs : o.serverEnveloper.isSome = true) (hw : t.writingEnvelope = true)
    (h : TwInv t) : TwWf o t :=
  fun he => ⟨hs, h he, fun h' => by rw [hw] at h'; cases h'⟩

theorem twReset_wf (st : St) (t : TW) (o : Op) (ho : st.op = o) (hs : o.serverEnveloper.isSome = true) : TwWf o (twReset st t) := by
  unfold twReset
  rw [ho, hs]
  simp only [if_true]
  intro _
  exact ⟨hs, fun _ => ⟨rfl, by simp⟩, fun h => by simp at h⟩

theorem twFlushMessage_writer_wf {w : World} {tb : Tables} {st : St} {t : TW} {r : St × TW × Option Err × Bool}
    (x : twFlushMessage w tb st t = r) (hwf : TwWf st.op t) (hs : st.op.serverEnveloper.isSome = true) :
    TwWf st.op r.2.1 := by
  rcases (twFlushMessage_spec x).2 with h | h | h
  · rw [h.1]; exact hwf
  · rw [h]; exact .latched _ _ rfl
  · rw [h]; exact twReset_wf _ t _ (x ▸ (twFlushMessage_hw w tb st t).op) hs

/-- With `r` of a total of `T` missing and at least `r` at hand, taking `r` completes the total
    (the arithmetic of both write loops at the end of an envelope or a message). -/
theorem length_take_missing {l d : Nat} {r T : Int} (h : (l : Int) + r = T) (h0 : 0 ≤ r) (hge : ¬ (d : Int) < r) :
    ((l + min r.toNat d : Nat) : Int) = T := by omega

/-- **The loop of `transformingWriter.Write` never panics** - no slice out of range, no missing
    envelope decoder, no exhausted fuel - and hands back a well-formed writer, for any bytes. -/
theorem twLoop_safe (w : World) (tb : Tables) : ∀ (n : Nat) (st : St) (t : TW) (data : Bytes),
    TwWf st.op t → muT t data < n →
    (twLoop w tb n st t data).2.2.2 = false ∧ TwWf st.op (twLoop w tb n st t data).2.1 := by
  intro n
  induction n with
  | zero => intro _ _ _ _ h; omega
  | succ m ih =>
    intro st t data hwf hmu
    unfold twLoop
    by_cases herr : t.err = true
    · rw [if_pos herr]; exact ⟨rfl, hwf⟩
    rw [if_neg herr]
    obtain ⟨hsrv, henv, hbody⟩ := hwf (by simpa using herr)
    extract_lets got remaining k t1 rest t2
    -- never more in the buffer than expected
    have hle : (got : Int) ≤ t.expecting := by
      cases hw : t.writingEnvelope with
      | true => rw [(henv hw).1]; exact Int.le_of_lt (Int.ofNat_lt.mpr (henv hw).2)
      | false => exact hbody hw
    have hnn : ¬ remaining < 0 := Int.not_lt.mpr (Int.sub_nonneg_of_le hle)
    rw [if_neg hnn]
    by_cases hlt : (data.length : Int) < remaining
    · rw [if_pos hlt]
      refine ⟨rfl, fun _ => ⟨hsrv, fun hw => ?_, fun hw => ?_⟩⟩
      · have := henv hw
        simp only [Option.getD_some, List.length_append]
        omega
      · have := hbody hw
        simp only [Option.getD_some, List.length_append]
        omega
    rw [if_neg hlt]
    have hnext := fun t' h =>
      Nat.lt_of_lt_of_le (muT_next (t' := t') hwf.inv (by simpa using herr) hlt h) (Nat.le_of_lt_succ hmu)
    have hlen : (((t.buffer.getD []) ++ data.take k).length : Int) = t.expecting := by
      rw [List.length_append, List.length_take]
      exact length_take_missing (by rw [Int.add_comm]; exact Int.sub_add_cancel _ _) (Int.not_lt.mp hnn) hlt
    by_cases hw : t1.writingEnvelope = true
    · rw [if_pos hw]
      obtain ⟨hexp, -⟩ := henv hw
      -- the envelope ends here: the writer is back at the start of one, or goes on with the message
      have wf0 : ∀ {t' : TW}, t'.err = t.err → t'.writingEnvelope = true → t'.expecting = t.expecting →
          t'.buffer = some [] → TwWf st.op t' :=
        fun h1 h2 h3 h4 => .of_inv hsrv h2 fun _ _ => ⟨h3 ▸ hexp, by rw [h4]; decide⟩
      split
      · split
        · exact ⟨reportError_no_panic w st _, wf0 rfl hw rfl rfl⟩
        · split
          · exact ⟨reportError_no_panic w st _, wf0 rfl hw rfl rfl⟩
          · exact ih _ _ _ (fun _ => ⟨hsrv, nofun, fun _ => Int.natCast_nonneg _⟩) (hnext _ (congrArg not hw).symm)
      next hno =>
        -- a complete envelope has five bytes, and the backend's protocol can decode it
        exfalso
        obtain ⟨se, hse⟩ := Option.isSome_iff_exists.mp hsrv
        obtain ⟨f, a, b, c, d, h5⟩ := list_len5 ((t.buffer.getD []) ++ data.take k) (by omega)
        exact hno se f a b c d hse (congrArg some h5)
    rw [if_neg hw]
    split
    next s1 t4 err p x =>
    obtain ⟨rfl, -⟩ := twFlushMessage_spec x
    have hop : s1.op = st.op := (x ▸ (twFlushMessage_hw w tb st t1).op :)
    have hwt : TwWf st.op t4 := twFlushMessage_writer_wf x
      (fun _ => ⟨hsrv, fun h => absurd h hw, fun _ => Int.le_of_eq hlen⟩) hsrv
    rw [if_neg Bool.false_ne_true]
    split
    · exact ⟨reportError_no_panic w s1 _, hwt⟩
    next hnone =>
    split
    · exact ⟨rfl, hwt⟩
    · rw [← hop]
      exact ih _ _ _ (.of_inv (hop ▸ hsrv) rfl (twFlushMessage_next x (Option.eq_none_iff_forall_ne_some.mpr hnone)))
        (hnext _ (by rw [(Bool.not_eq_true _).mp hw]; rfl))

/-- What holds of the re-encoding writer between two `Write` calls. -/
def TwOk (o : Op) (t : TW) : Prop :=
  t.err = false → t.buffer.isSome = true →
    (o.serverEnveloper.isSome = true → TwWf o t) ∧ (o.serverEnveloper.isSome = false → t.expecting = -1)

theorem TwOk.fresh (o : Op) : TwOk o {} := by
  intro _ h; cases h

theorem TwWf.expecting_ne (o : Op) (t : TW) (h : TwWf o t) (he : t.err = false) : t.expecting ≠ -1 := by
  obtain ⟨_, henv, hbody⟩ := h he
  intro hx
  cases hw : t.writingEnvelope with
  | true => have := henv hw; omega
  | false => have := hbody hw; omega

theorem twWrite_safe (w : World) (tb : Tables) (st : St) (t : TW) (data : Bytes) (h : TwOk st.op t) :
    (twWrite w tb st t data).2.2.2 = false ∧ TwOk st.op (twWrite w tb st t data).2.1 := by
  unfold twWrite
  by_cases herr : t.err = true
  · rw [if_pos herr]; exact ⟨rfl, h⟩
  have he : t.err = false := by simpa using herr
  rw [if_neg herr]
  extract_lets t1
  -- before the first `Write` the writer is reset
  have h1 : TwOk st.op t1 ∧ t1.err = false ∧ t1.buffer.isSome = true := by
    dsimp only [t1]
    split
    · refine ⟨fun _ _ => ⟨fun hs => twReset_wf st t _ rfl hs, fun hs => ?_⟩, ?_, ?_⟩
      · unfold twReset; simp [hs]
      · exact (twReset_err st t).trans he
      · rw [twReset_buffer]; rfl
    next hb =>
      refine ⟨h, he, ?_⟩
      cases hbb : t.buffer with
      | none => simp [hbb] at hb
      | some b => rfl
  obtain ⟨hok, he1, hb1⟩ := h1
  obtain ⟨hsome, hnone⟩ := hok he1 hb1
  cases hs : st.op.serverEnveloper.isSome
  · -- no envelopes on the backend's side: the message is collected until `Close`
    have hexp := hnone hs
    rw [if_pos (by rw [hexp]; rfl)]
    split
    · exact ⟨reportError_no_panic w st _, hok⟩
    · exact ⟨rfl, fun _ _ => ⟨fun h => (by rw [hs] at h; cases h), fun _ => hexp⟩⟩
  · have hwf := hsome hs
    rw [if_neg (by simpa using hwf.expecting_ne _ _ he1)]
    exact (twLoop_safe w tb _ st t1 data hwf (muT_lt t1 data)).imp_right
      fun hwf _ _ => ⟨fun _ => hwf, fun h => by rw [hs] at h; cases h⟩

theorem reportEnd_sets_err (w : World) (st : St) (e : RespEnd) (hopen : st.rw.endWritten = false) :
    (reportEnd w st e).1.rw.err = true := by
  unfold reportEnd
  simp only [hopen, Bool.false_eq_true, if_false]

theorem reportError_sets_err (w : World) (st : St) (err : Err) (hopen : st.rw.endWritten = false) :
    (reportError w st err).1.rw.err = true := by
  obtain ⟨e, h, _⟩ := reportError_eq w st err
  rw [h]; exact reportEnd_sets_err w st e hopen

theorem writeDown_failed_latched (w : World) (st : St) (b : Bytes) (hopen : st.rw.endWritten = false) :
    (writeDown w st b).2.1 = true → (writeDown w st b).1.rw.err = true := by
  fun_cases writeDown w st b
  case case1 x => exact fun _ => (x ▸ reportError_sets_err w st _ hopen :)
  case case2 | case3 => nofun

theorem handleEndMessage_ends (w : World) (tb : Tables) (st : St) (c : Bool) (d : Bytes) :
    (handleEndMessage w tb st c d true).1.rw.endWritten = true := by
  fun_cases handleEndMessage w tb st c d true
  case case1 | case3 => exact reportError_ends w st _
  case case2 h => exact absurd rfl h
  case case4 => exact reportEnd_ends w st _

/-- Well-formedness of the re-framing writer inside its loop: while an envelope is collected, what is
    there and what is missing make five bytes, and something is missing; while a message is passed on,
    there is somewhere to pass it and no stale envelope bytes. -/
def EwWf (e : EW) : Prop :=
  e.err = false →
    (e.writingEnvelope = true → (e.env.length : Int) + e.remaining = 5 ∧ 1 ≤ e.remaining) ∧
    (e.writingEnvelope = false → e.current ≠ .none ∧ e.env = [])

theorem EwWf.latched (e : EW) (h : e.err = true) : EwWf e := by
  intro h'; rw [h] at h'; cases h'

theorem EwWf.envInv (e : EW) (h : EwWf e) : EnvInv e := fun he hw => ((h he).1 hw).2

theorem EwWf.envelope {e : EW} (hw : e.writingEnvelope = true) (h : (e.env.length : Int) + e.remaining = 5)
    (h1 : 1 ≤ e.remaining) : EwWf e :=
  fun _ => ⟨fun _ => ⟨h, h1⟩, fun h' => by rw [hw] at h'; cases h'⟩

theorem EwWf.start {e : EW} (hw : e.writingEnvelope = true) (hr : e.remaining = 5) (he : e.env = []) : EwWf e :=
  .envelope hw (by rw [hr, he]; rfl) (by rw [hr]; decide)

theorem EwWf.body {e : EW} (hw : e.writingEnvelope = false) (hc : e.current ≠ .none) (h : e.env = []) : EwWf e :=
  fun _ => ⟨fun h' => (by rw [hw] at h'; cases h'), fun _ => ⟨hc, h⟩⟩

theorem ewWritePiece_safe {w : World} {st : St} {e : EW} {piece : Bytes} {r : St × EW × Bool × Bool}
    (x : ewWritePiece w st e piece = r) (hwf : EwWf e) (he : e.err = false) :
    r.2.2.2 = false ∧ r.2.1.writingEnvelope = e.writingEnvelope ∧ r.2.1.remaining = e.remaining ∧
    (e.writingEnvelope = true → r.2.1.env = e.env ++ piece) ∧
    (e.writingEnvelope = false → r.2.1.env = [] ∧ r.2.1.current ≠ .none) := by
  subst x
  obtain ⟨_, hbody⟩ := hwf he
  fun_cases ewWritePiece w st e piece
  case case1 hw => exact ⟨rfl, rfl, rfl, fun _ => rfl, fun h => by rw [hw] at h; cases h⟩
  case case6 hw hc => exact absurd hc (hbody (by simpa using hw)).1
  all_goals
    have hw := ‹¬e.writingEnvelope = true›
    obtain ⟨hcur, henv⟩ := hbody (by simpa using hw)
  case case2 x => exact ⟨(x ▸ writeDown_no_panic w st piece :), rfl, rfl, fun h => absurd h hw, fun _ => ⟨henv, hcur⟩⟩
  case case3 => exact ⟨rfl, rfl, rfl, fun h => absurd h hw, fun _ => ⟨henv, nofun⟩⟩
  case case4 x => exact ⟨(x ▸ reportError_no_panic w st _ :), rfl, rfl, fun h => absurd h hw, fun _ => ⟨henv, hcur⟩⟩
  case case5 => exact ⟨rfl, rfl, rfl, fun h => absurd h hw, fun _ => ⟨henv, nofun⟩⟩

theorem ewEnvelopeWritten_safe {w : World} {st : St} {e : EW} {r : St × EW × Bool × Bool}
    (x : ewEnvelopeWritten w st e = r) (hlen : e.env.length = 5) :
    r.2.2.2 = false ∧ (r.2.2.1 = false → EwWf r.2.1) ∧
    (r.2.2.1 = true → r.1.rw.endWritten = true ∨ r.2.1.err = true) := by
  subst x
  fun_cases ewEnvelopeWritten w st e
  case case1 x => exact ⟨(x ▸ reportError_no_panic w st _ :), nofun, fun _ => .inr rfl⟩
  case case2 x | case3 x =>
    exact ⟨(x ▸ reportError_no_panic w st _ :), nofun, fun _ => .inl (x ▸ reportError_ends w st _ :)⟩
  case case4 => exact ⟨rfl, fun _ => .body rfl nofun rfl, nofun⟩
  case case5 x =>
    refine ⟨?_, nofun, fun _ => .inr rfl⟩
    split at x
    · exact (x ▸ writeDown_no_panic w st _ :)
    · cases x
  case case6 x _ =>
    refine ⟨?_, fun _ => .body rfl nofun rfl, nofun⟩
    split at x
    · exact (x ▸ writeDown_no_panic w st _ :)
    · cases x; rfl
  case case7 hno =>
    obtain ⟨f, a, b, c, d, h5⟩ := list_len5 _ hlen
    exact absurd h5 (hno f a b c d)

/-- The loop of `envelopingWriter.Write` on a well-formed writer, whatever the state of the response. -/
theorem ewLoop_wf (w : World) (tb : Tables) : ∀ (n : Nat) (st : St) (e : EW) (data : Bytes),
    EwWf e → mu e data < n →
    (ewLoop w tb n st e data).2.2.2 = false ∧
    ((ewLoop w tb n st e data).1.rw.endWritten = true ∨ EwWf (ewLoop w tb n st e data).2.1) := by
  intro n
  induction n with
  | zero => intro _ _ _ _ h; omega
  | succ m ih =>
    intro st e data hwf hmu
    unfold ewLoop
    by_cases herr : e.err = true
    · rw [if_pos herr]; exact ⟨rfl, .inr hwf⟩
    rw [if_neg herr]
    have he : e.err = false := by simpa using herr
    obtain ⟨henv, hbody⟩ := hwf he
    by_cases hlt : (data.length : Int) < e.remaining
    · -- the piece ends inside the envelope or the message
      rw [if_pos hlt]
      split
      next s1 e1 f1 p1 x1 =>
      obtain ⟨rfl, hfw, hfr, hE, hB⟩ := ewWritePiece_safe x1 hwf he
      dsimp only at hfw hfr hE hB
      refine ⟨rfl, .inr ?_⟩
      cases hw : e.writingEnvelope
      · exact .body (hfw.trans hw) (hB hw).2 (hB hw).1
      · have := henv hw
        refine .envelope (hfw.trans hw) ?_ (by simp only [hfr]; exact Int.sub_pos_of_lt hlt)
        simp only [hE hw, hfr, List.length_append]; omega
    rw [if_neg hlt]
    have hnext := fun e' h =>
      Nat.lt_of_lt_of_le (mu_next (e' := e') hwf.envInv he hlt h) (Nat.le_of_lt_succ hmu)
    extract_lets k rest
    split
    next s1 e1 f1 p1 x1 =>
    obtain ⟨rfl, hfw, hfr, hE, hB⟩ := ewWritePiece_safe x1 hwf he
    dsimp only at hfw hfr hE hB
    extract_lets e1' e2 e3 s1'
    cases f1
    case true => rw [if_pos (by rfl)]; exact ⟨rfl, .inr (.latched _ rfl)⟩
    rw [if_neg (by decide)]
    by_cases hw : e1'.writingEnvelope = true
    · -- an envelope is complete: it has five bytes
      rw [if_pos hw]
      have hwe : e.writingEnvelope = true := hfw ▸ hw
      have hlen : e1'.env.length = 5 := by
        have := henv hwe
        show e1.env.length = 5
        rw [hE hwe, List.length_append, List.length_take]
        exact Int.ofNat_inj.mp (length_take_missing this.1 (Int.le_trans (by decide) this.2) hlt)
      split
      next s2 e2 f2 p2 x2 =>
      obtain ⟨rfl, hok2, hbad2⟩ := ewEnvelopeWritten_safe x2 hlen
      have hnw := ewEnvelopeWritten_not_writing w s1 e1'
      rw [x2] at hnw
      cases f2
      case true =>
        rw [if_pos (by rfl)]
        exact ⟨rfl, (hbad2 rfl).imp_right (.latched _)⟩
      rw [if_neg (by decide)]
      exact ih _ _ _ (hok2 rfl) (hnext _ (by rw [hwe]; exact hnw))
    rw [if_neg hw]
    have hwe : e.writingEnvelope = false := hfw ▸ (Bool.not_eq_true _).mp hw
    obtain ⟨h1env, h1cur⟩ := hB hwe
    by_cases ht : e1'.currentIsTrailer = true
    · rw [if_pos ht]
      split
      · -- the end of the stream is complete
        split
        next s2 err p2 x3 =>
        cases (x3 ▸ handleEndMessage_no_panic w tb s1 _ _ true :)
        by_cases hend : (err.isSome || false) = true
        · rw [if_pos hend]; exact ⟨rfl, .inl (x3 ▸ handleEndMessage_ends w tb s1 _ _ :)⟩
        rw [if_neg hend]
        by_cases hre : rest.isEmpty = true
        · rw [if_pos hre]; exact ⟨rfl, .inr (.latched _ rfl)⟩
        rw [if_neg hre]
        -- latched: the next round returns at once (and there is one: a writer inside a message has a positive measure)
        have hpos : 0 < mu e data := by unfold mu; rw [hwe]; exact Nat.succ_pos _
        obtain ⟨m', rfl⟩ := Nat.exists_eq_succ_of_ne_zero (Nat.ne_of_gt (Nat.lt_of_lt_of_le hpos (Nat.le_of_lt_succ hmu)))
        rw [ewLoop_err w tb m' _ _ _ rfl]
        exact ⟨rfl, .inr (.latched _ rfl)⟩
      · exact ⟨rfl, .inr (.body (by simpa using hw) h1cur h1env)⟩
    rw [if_neg ht]
    -- the message is complete: on to the next envelope
    exact ih _ _ _ (.start rfl rfl h1env) (hnext _ (by rw [hwe]; rfl))

/-- **The loop of `envelopingWriter.Write` never panics** - there is always a sink for the bytes, a
    complete envelope always has five bytes, the fuel is never exhausted - and afterwards the
    response is latched in an error or the writer is well-formed for the next call. -/
theorem ewLoop_safe (w : World) (tb : Tables) : ∀ (n : Nat) (st : St) (e : EW) (data : Bytes),
    EwWf e → (st.rw.endWritten = false ∨ e.err = true) → mu e data < n →
    (ewLoop w tb n st e data).2.2.2 = false ∧
    ((ewLoop w tb n st e data).1.rw.endWritten = true ∨ EwWf (ewLoop w tb n st e data).2.1) :=
  fun n st e data hwf _ hmu => ewLoop_wf w tb n st e data hwf hmu

/-- What holds of the re-framing writer between two `Write` calls. -/
def EwOk (e : EW) : Prop :=
  (e.initialized = true → EwWf e) ∧ (e.initialized = false → e.env = [] ∧ e.writingEnvelope = false)

theorem EwOk.fresh : EwOk {} := ⟨fun h => (by cases h), fun _ => ⟨rfl, rfl⟩⟩

theorem EwOk.of_wf (e : EW) (hi : e.initialized = true) (h : EwWf e) : EwOk e :=
  ⟨fun _ => h, fun h' => by rw [hi] at h'; cases h'⟩

theorem ewInit_safe {w : World} {st : St} {e : EW} {r : St × EW × Bool} (x : ewInit w st e = r) (hok : EwOk e) :
    r.2.2 = false ∧ EwWf r.2.1 := by
  subst x
  fun_cases ewInit w st e
  case case1 hi => exact ⟨rfl, hok.1 hi⟩
  all_goals obtain ⟨henv, hwe⟩ := hok.2 (by simpa using ‹¬e.initialized = true›)
  case case2 => exact ⟨rfl, .start rfl rfl henv⟩
  case case3 | case4 => exact ⟨rfl, .body hwe nofun henv⟩
  case case5 x => exact ⟨(x ▸ reportError_no_panic w st _ :), .latched _ rfl⟩
  case case6 x => exact ⟨(x ▸ writeDown_no_panic w st _ :), .latched _ rfl⟩
  case case7 x _ => exact ⟨(x ▸ writeDown_no_panic w st _ :), .body hwe nofun henv⟩

def isLB (c : Cur) : Bool := match c with | .limitBuf _ => true | _ => false

/-! Only `maybeInit` installs a `limitBuf`, and only for a client whose protocol has envelopes. -/

theorem ewWritePiece_lb {w : World} {st : St} {e : EW} {piece : Bytes} {r : St × EW × Bool × Bool}
    (x : ewWritePiece w st e piece = r) : isLB r.2.1.current = true → isLB e.current = true := by
  subst x
  fun_cases ewWritePiece w st e piece
  case case1 | case2 | case4 | case6 => exact id
  case case3 => nofun
  case case5 hc _ => exact fun _ => congrArg isLB hc

theorem ewEnvelopeWritten_lb {w : World} {st : St} {e : EW} {r : St × EW × Bool × Bool}
    (x : ewEnvelopeWritten w st e = r) : isLB r.2.1.current = true → isLB e.current = true := by
  subst x
  fun_cases ewEnvelopeWritten w st e
  case case1 | case2 | case3 | case5 | case7 => exact id
  case case4 | case6 => nofun

theorem ewLoop_lb (w : World) (tb : Tables) (n : Nat) (st : St) (e : EW) (data : Bytes) :
    isLB (ewLoop w tb n st e data).2.1.current = true → isLB e.current = true := by
  fun_induction ewLoop w tb n st e data
  case case1 | case2 => exact id
  all_goals have h1 := ewWritePiece_lb ‹ewWritePiece w _ _ _ = _›
  case case3 | case4 | case7 | case8 | case10 => exact h1
  case case5 x _ => have h2 := ewEnvelopeWritten_lb x; exact fun h => h1 (h2 h)
  case case6 x _ ih => have h2 := ewEnvelopeWritten_lb x; exact fun h => h1 (h2 (ih h))
  case case9 ih | case11 ih => exact fun h => h1 (ih h)

theorem ewInit_lb {w : World} {st : St} {e : EW} {r : St × EW × Bool} (x : ewInit w st e = r) :
    isLB r.2.1.current = true → isLB e.current = true ∨ st.op.clientEnveloper.isSome = true := by
  subst x
  fun_cases ewInit w st e
  case case1 | case2 | case5 | case6 => exact .inl
  case case3 | case7 => nofun
  case case4 hce _ => exact fun _ => .inr (hce ▸ rfl)

theorem ewWrite_lb (w : World) (tb : Tables) (st : St) (e : EW) (data : Bytes) :
    isLB (ewWrite w tb st e data).2.1.current = true → isLB e.current = true ∨ st.op.clientEnveloper.isSome = true := by
  fun_cases ewWrite w tb st e data
  all_goals have h0 := ewInit_lb ‹ewInit w st e = _›
  case case1 | case2 => exact h0
  case case3 x => have h1 := ewWritePiece_lb x; exact fun h => h0 (h1 h)
  case case4 => exact fun h => h0 (ewLoop_lb w tb _ _ _ _ h)

theorem ewWrite_safe (w : World) (tb : Tables) (st : St) (e : EW) (data : Bytes) (hok : EwOk e)
    (hlb : isLB e.current = true → st.op.clientEnveloper.isSome = true) :
    (ewWrite w tb st e data).2.2.2 = false ∧
    (isLB (ewWrite w tb st e data).2.1.current = true → (ewWrite w tb st e data).1.op.clientEnveloper.isSome = true) ∧
    ((ewWrite w tb st e data).1.rw.endWritten = true ∨ EwOk (ewWrite w tb st e data).2.1) := by
  suffices h : (ewWrite w tb st e data).2.2.2 = false ∧
      ((ewWrite w tb st e data).1.rw.endWritten = true ∨ EwWf (ewWrite w tb st e data).2.1) from
    ⟨h.1, fun hl => (ewWrite_hw w tb st e data).op ▸ (ewWrite_lb w tb st e data hl).elim hlb id,
      h.2.imp_right (.of_wf _ (ewWrite_initialized w tb st e data))⟩
  fun_cases ewWrite w tb st e data
  case case1 x0 => cases (ewInit_safe x0 hok).1
  case case2 x0 _ _ => exact ⟨rfl, .inr (ewInit_safe x0 hok).2⟩
  case case3 s0 e0 _ x0 _ herr hrem s1 e1 f1 p1 x1 =>
    -- no envelopes on the backend's side: everything goes to the sink
    have hwf0 : EwWf e0 := (ewInit_safe x0 hok).2
    have he : e0.err = false := by simpa using herr
    obtain ⟨hp, hfw, -, -, hB⟩ := ewWritePiece_safe x1 hwf0 he
    have hw0 : e0.writingEnvelope = false := by
      cases hw : e0.writingEnvelope with
      | false => rfl
      | true =>
        have := ((hwf0 he).1 hw).2
        have : e0.remaining = -1 := by simpa using hrem
        omega
    exact ⟨hp, .inr (.body (hfw.trans hw0) (hB hw0).2 (hB hw0).1)⟩
  case case4 s0 e0 _ x0 _ _ _ =>
    exact ewLoop_wf w tb _ s0 e0 data (ewInit_safe x0 hok).2 (by unfold mu; split <;> omega)

/-- Writing out the buffered body needs the client's envelope encoder: there is one whenever the
    writer buffers in a `limitBuf`. -/
theorem ewCloseFlush_no_panic {w : World} {st : St} {e : EW} {r : St × EW × Bool} (x : ewCloseFlush w st e = r)
    (h : st.rw.endWritten = true ∨ (isLB e.current = true → st.op.clientEnveloper.isSome = true)) :
    r.2.2 = false := by
  subst x
  fun_cases ewCloseFlush w st e
  case case1 | case5 | case6 => rfl
  case case2 x _ => exact (x ▸ writeDown_no_panic w st _ :)
  case case3 s1 _ _ _ _ _ _ _ x => exact (x ▸ writeDown_no_panic w s1 _ :)
  case case4 hc hcond _ hnone =>
    rcases h with he | hl
    · simp [he] at hcond
    · have := hl (by rw [hc]; rfl)
      rw [hnone] at this; cases this

theorem ewClose_no_panic (w : World) (st : St) (e : EW)
    (h : st.rw.endWritten = true ∨ (isLB e.current = true → st.op.clientEnveloper.isSome = true)) :
    (ewClose w st e).2 = false := by
  fun_cases ewClose w st e
  case case1 x => cases ewCloseFlush_no_panic x h
  case case2 | case4 => rfl
  case case3 => exact reportError_no_panic w _ _

theorem twClose_no_panic (w : World) (tb : Tables) (st : St) (t : TW) : (twClose w tb st t).2 = false := by
  fun_cases twClose w tb st t
  case case1 | case4 | case6 => rfl
  case case2 x => cases (twFlushMessage_spec x).1
  case case3 | case5 => exact reportError_no_panic w _ _

/-- The body writer installed in the response writer is ready for a `Write`. -/
def WriterOk (st : St) : Prop :=
  match st.rw.w with
  | .unset => False
  | .enveloping e => EwOk e ∧ (isLB e.current = true → st.op.clientEnveloper.isSome = true)
  | .transforming t => TwOk st.op t
  | _ => True

/-- The invariant of a run that makes `Write` safe: the response is consistent (`Good`, C03), and once
    `WriteHeader` ran either the RPC has ended or a well-formed body writer is installed. -/
structure Ready (st : St) : Prop where
  good : Good st
  ready : st.rw.headersWritten = true → st.rw.endWritten = true ∨ WriterOk st

theorem reportError_ready (w : World) (st : St) (err : Err) (h : Ready st) : Ready (reportError w st err).1 :=
  ⟨(reportError_ev w st err h.good).1, fun _ => .inl (reportError_ends w st err)⟩

theorem Ready.of_neutral {a b : St} (h : Ready a) (n : Neutral a b) : Ready b := by
  refine ⟨(n.ev h.good).1, fun hw => ?_⟩
  unfold WriterOk
  rw [n.wk, n.op, n.ended]
  exact h.ready (n.written ▸ hw)

theorem start_ready (st : St) (skip : Bool) (hrw : st.rw = {}) (hs : st.sink = {}) : Ready (transcodeStartState st skip) := by
  refine Ready.of_neutral ⟨?_, fun hh => by rw [hrw] at hh; cases hh⟩ (transcodeStartState_neutral st skip)
  have := good_init st.op st.src
  obtain ⟨o, src, sink, rw, scratch⟩ := st
  simp only at hrw hs
  subst hrw hs
  exact ⟨this.ended, this.opened, this.atMost, this.last⟩

theorem WriterOk.fresh (st : St) (b : Bool) : WriterOk (rwSetWriter st (if b then .enveloping {} else .transforming {})) := by
  cases b
  · exact TwOk.fresh _
  · exact ⟨EwOk.fresh, nofun⟩

theorem rwWriteHeader_safe (w : World) (tb : Tables) (st : St) (c : Nat) (h : Ready st) :
    (rwWriteHeader w tb st c).2 = false ∧ Ready (rwWriteHeader w tb st c).1 := by
  have hg := (rwWriteHeader_ev w tb st c h.good).1
  have hp := rwWriteHeader_path w tb st c
  generalize rwWriteHeader w tb st c = r at hg hp
  cases hp with
  | again => exact ⟨rfl, h⟩
  | ended he => exact ⟨rfl, hg, fun _ => .inl he⟩
  | error => exact ⟨reportError_no_panic w _ _, hg, fun _ => .inl (reportError_ends w _ _)⟩
  | errorBody => exact ⟨rfl, hg, fun _ => .inr trivial⟩
  | trailersOnly => exact ⟨flushHeaders_no_panic w _, hg, fun _ => .inr trivial⟩
  | buffered => exact ⟨rfl, hg, fun _ => .inr (.fresh _ _)⟩
  | streaming => exact ⟨flushHeaders_no_panic w _, hg, fun _ => .inr (.fresh _ _)⟩

/-- **`responseWriter.Write` never panics** in a state reachable by a handler, and keeps the invariant:
    any bytes, split anywhere, errors of the backend's framing included. -/
theorem rwWrite_safe (w : World) (tb : Tables) (st : St) (data : Bytes) (h : Ready st) :
    (rwWrite w tb st data).2.2 = false ∧ Ready (rwWrite w tb st data).1 := by
  suffices hs : (rwWrite w tb st data).2.2 = false ∧
      ((rwWrite w tb st data).1.rw.headersWritten = true →
        (rwWrite w tb st data).1.rw.endWritten = true ∨ WriterOk (rwWrite w tb st data).1) from
    ⟨hs.1, (rwWrite_ev w tb st data h.good).1, hs.2⟩
  obtain ⟨hp0, hR⟩ := rwWriteHeader_safe w tb st 200 h
  have hW := rwWriteHeader_written w tb st 200
  rw [← implicitHeader_eq] at hp0 hR hW
  -- a live response (`herr`) is open, so a well-formed writer is installed (`hwo`)
  have hwo := fun herr => (hR.ready hW).resolve_left (by rw [hR.good.live_open herr]; nofun)
  unfold WriterOk at hwo
  fun_cases rwWrite w tb st data with
  | case1 _ hp => rw [hp0] at hp; cases hp
  | case3 r0 _ herr e hw =>
    rw [hw] at hwo
    obtain ⟨hp, hlb, hres⟩ := ewWrite_safe w tb r0.1 e data (hwo (by simpa using herr)).1 (hwo (by simpa using herr)).2
    exact ⟨hp, fun _ => hres.imp_right fun hok => ⟨hok, hlb⟩⟩
  | case4 r0 _ herr t hw =>
    rw [hw] at hwo
    obtain ⟨hp, hok⟩ := twWrite_safe w tb r0.1 t data (hwo (by simpa using herr))
    refine ⟨hp, fun _ => .inr ?_⟩
    show TwOk (twWrite w tb r0.1 t data).1.op _
    rw [(twWrite_hw w tb r0.1 t data).op]; exact hok
  | case6 => exact ⟨reportError_no_panic w _ _, fun _ => .inl (reportError_ends w _ _)⟩
  | case7 => exact ⟨rfl, fun _ => .inr trivial⟩
  | case9 r0 _ herr hw => rw [hw] at hwo; exact (hwo (by simpa using herr)).elim
  | _ => exact ⟨rfl, hR.ready⟩       -- latched, or a writer that takes nothing: the state the implicit `WriteHeader` left

/-- **Every handler script keeps the invariant** (any reads of any size, header changes,
    `WriteHeader`, `Write` with any bytes, `Flush`, `Close`, stopped anywhere) ... -/
theorem runScript_ready (w : World) (tb : Tables) (pl : HandlePlan) (script : List BOp) (total0 : Nat) (f : Flight)
    (h : Ready f.st) : Ready (runScript w tb pl script total0 f).1.st :=
  runScript_inv_st (fun n h => h.of_neutral n) (reportError_ready w) (fun st c h => (rwWriteHeader_safe w tb st c h).2)
    (fun st d h => (rwWrite_safe w tb st d h).2) script total0 f h

/-- ... so **no `WriteHeader` and no `Write` of any handler ever panics**: whatever the handler did
    before - in the state after any script, from the state `ServeHTTP` hands to the handler - the next
    `Write` (any bytes) and the next `WriteHeader` (any status) return without a panic. -/
theorem handler_writes_never_panic (w : World) (tb : Tables) (pl : HandlePlan) (script : List BOp) (total0 : Nat)
    (st : St) (skip : Bool) (rd : Reader) (hrw : st.rw = {}) (hs : st.sink = {}) (data : Bytes) (code : Nat) :
    let st' := (runScript w tb pl script total0 { st := transcodeStartState st skip, rd := rd }).1.st
    (rwWrite w tb st' data).2.2 = false ∧ (rwWriteHeader w tb st' code).2 = false := by
  intro st'
  have hr : Ready st' := runScript_ready w tb pl script total0 _ (start_ready st skip hrw hs)
  exact ⟨(rwWrite_safe w tb st' data hr).1, (rwWriteHeader_safe w tb st' code hr).1⟩

theorem rwCloseWriter_no_panic (w : World) (tb : Tables) (st : St) (h : Ready st) (hW : st.rw.headersWritten = true) :
    (rwCloseWriter w tb st).2 = false := by
  have hwo : ¬st.rw.endWritten = true → WriterOk st := (h.ready hW).resolve_left
  unfold WriterOk at hwo
  fun_cases rwCloseWriter w tb st
  case case1 e _ he => exact ewClose_no_panic w st e (.inl he)
  -- while the RPC is open, `Close` first flushes with an empty `Write`
  case case2 e hw hne x hp =>
    rw [hw] at hwo
    cases (ewWrite_safe w tb st e [] (hwo hne).1 (hwo hne).2).1.symm.trans hp
  case case3 e hw hne x _ =>
    rw [hw] at hwo
    exact ewClose_no_panic w _ _ (.inr (ewWrite_safe w tb st e [] (hwo hne).1 (hwo hne).2).2.1)
  case case4 t _ _ => exact twClose_no_panic w tb st t
  case case5 t hw hne x hp =>
    rw [hw] at hwo
    cases (twWrite_safe w tb st t [] (hwo hne)).1.symm.trans hp
  case case6 => exact twClose_no_panic w tb _ _
  case case7 => exact flushHeaders_no_panic w _
  case case8 | case9 => rfl

theorem rwCloseEnd_no_panic (w : World) (tb : Tables) (st : St) : (rwCloseEnd w tb st).2 = false := by
  fun_cases rwCloseEnd w tb st
  case case1 => rfl
  case case2 | case4 => exact reportEnd_no_panic w _ _
  case case3 => exact reportError_no_panic w _ _

/-- **`responseWriter.Close` never panics** in a state a handler can reach. -/
theorem rwClose_no_panic (w : World) (tb : Tables) (st : St) (h : Ready st) : (rwClose w tb st).2 = false := by
  unfold rwClose
  rw [implicitHeader_eq]
  obtain ⟨hp0, hR⟩ := rwWriteHeader_safe w tb st 200 h
  dsimp only
  rw [hp0, if_neg Bool.false_ne_true, rwCloseWriter_no_panic w tb _ hR (rwWriteHeader_written w tb st 200),
    if_neg Bool.false_ne_true]
  exact rwCloseEnd_no_panic w tb _

/-- **The response side of `ServeHTTP` never panics**: if the handler's reads did not panic (the
    flight's flag after the script - every `WriteHeader`/`Write` in it is panic-free by the theorems
    above), closing the response writer when the handler returns does not panic either. -/
theorem finish_never_panics (w : World) (tb : Tables) (pl : HandlePlan) (script : List BOp) (total0 : Nat)
    (st : St) (skip : Bool) (rd : Reader) (hrw : st.rw = {}) (hs : st.sink = {}) :
    let f := (runScript w tb pl script total0 { st := transcodeStartState st skip, rd := rd }).1
    f.panic = false → (transcodeFinish w tb f).2 = false := by
  intro f hp
  unfold transcodeFinish
  rw [hp, if_neg Bool.false_ne_true]
  exact rwClose_no_panic w tb f.st (runScript_ready w tb pl script total0 _ (start_ready st skip hrw hs))

/-- **`io.Copy` from the limited reader never runs out of steps**: the fuel the model gives it
    (`Source.fuel`) is enough for any body, in any pieces. -/
theorem copyAllLimited_no_panic (w : World) (report : Bool) (limit : Nat) : ∀ (fuel : Nat) (st : St) (read : Nat) (acc : Bytes),
    st.src.data.length < fuel → (copyAllLimited w report limit fuel st read acc).2.2.2 = false :=
  fun _ _ _ _ hf => (copyAllLimited_spec rfl hf).1

theorem readRequestMessage_spec (w : World) (st : St) (report : Bool) :
    (readRequestMessage w st report).2.2 = false ∧
    (readRequestMessage w st report).2.1.src.data.length ≤ st.src.data.length ∧
    (∀ x, (readRequestMessage w st report).1 = .ok x →
      (readRequestMessage w st report).2.1.src.data.length < st.src.data.length) := by
  have hf : st.src.data.length < st.src.fuel := by have := st.src.fuel_ge; omega
  fun_cases readRequestMessage w st report
  case case1 x => exact ⟨rfl, (readExactly_len x).1, nofun⟩      -- no envelope arrived
  case case2 s1 _ _ _ _ _ _ _ x | case3 s1 _ _ _ _ _ _ _ _ _ x | case4 s1 _ _ _ _ _ _ _ _ _ _ x =>
    -- a bad envelope: reported, if there is a response writer already
    have hr := fun err => reportIf_spec w s1 err report
    exact ⟨(hr _).1, Nat.le_trans (Nat.le_of_eq (congrArg (fun s => s.data.length) (hr _).2)) (readExactly_len x).1, nofun⟩
  case case5 x1 x2 | case6 x1 x2 =>
    -- the body ends inside the payload
    exact ⟨rfl, Nat.le_trans (readExactly_len x2).1 (readExactly_len x1).1, nofun⟩
  case case7 x1 x2 =>
    -- the five bytes of the envelope, at least, were taken
    have h : _ < st.src.data.length := Nat.lt_of_le_of_lt (readExactly_len x2).1
      (Nat.lt_of_lt_of_eq (Nat.lt_add_of_pos_right (by decide)) ((readExactly_len x1).2 rfl).2)
    exact ⟨rfl, Nat.le_of_lt h, fun _ _ => h⟩
  case case8 hd _ _ hno x =>
    -- no error and not five envelope bytes: cannot happen
    obtain ⟨f, a, b, c, d, h5⟩ := readExactly_five x
    exact absurd h5 (hno f a b c d)
  case case9 x =>
    -- no envelopes: the declared length is above the limit
    have hr := reportIf_spec w st (.rpc 8) report
    rw [x] at hr
    exact ⟨hr.1, Nat.le_of_eq (congrArg (fun s => s.data.length) hr.2), nofun⟩
  case case10 x | case11 x =>
    -- no envelopes: reading the whole body fails, or the body is empty
    obtain ⟨hp, hcat, -⟩ := copyAllLimited_spec x hf
    have := congrArg List.length hcat
    simp only [List.length_append, List.length_nil] at this
    exact ⟨hp, by dsimp only; omega, nofun⟩
  case case12 data _ _ hne x =>
    -- the whole body is the message, and it is not empty
    obtain ⟨hp, hcat, -⟩ := copyAllLimited_spec x hf
    have := congrArg List.length hcat
    simp only [List.length_append, List.length_nil] at this
    have : 0 < data.length := List.length_pos_iff.mpr fun h => hne (h ▸ rfl)
    exact ⟨hp, by dsimp only; omega, fun _ _ => by dsimp only; omega⟩

theorem readRequestMessage_no_panic (w : World) (st : St) (report : Bool) : (readRequestMessage w st report).2.2 = false :=
  (readRequestMessage_spec w st report).1

/-- Reading a request message never gives the body back, and a message that was read took something
    from it (an empty body is "end of file", not a message). -/
theorem readRequestMessage_consumes (w : World) (st : St) (report : Bool) :
    (readRequestMessage w st report).2.1.src.data.length ≤ st.src.data.length ∧
    (∀ x, (readRequestMessage w st report).1 = .ok x →
      (readRequestMessage w st report).2.1.src.data.length < st.src.data.length) :=
  (readRequestMessage_spec w st report).2

theorem erCurRead_no_panic (w : World) (st : St) (cur : RCur) (n : Nat) (hc : cur ≠ .none) :
    (erCurRead w st cur n).2.2.2.2 = false := by
  fun_cases erCurRead w st cur n
  case case1 => exact absurd rfl hc
  case case3 x => exact (hardLimitRead_spec x).1
  all_goals rfl

theorem erPrepareNext_safe (w : World) (st : St) (r : ER) :
    (erPrepareNext w st r).2.2.2 = false ∧
    ((erPrepareNext w st r).1 = none → (erPrepareNext w st r).2.2.1.current ≠ .none) := by
  fun_cases erPrepareNext w st r
  case case1 => exact ⟨rfl, fun _ => RCur.noConfusion⟩   -- neither side has envelopes: the body as it is
  -- an error without a report: the one message of a client without envelopes was read before; no envelope arrived
  case case6 | case7 => exact ⟨rfl, nofun⟩
  case case2 => exact ⟨reportError_no_panic w st _, nofun⟩   -- no envelopes: the declared length is above the limit
  -- a message is announced (`finish`): of the declared length; the whole body, buffered; what the client's envelope says
  case case3 finish _ _ _ _ _ _ _ | case5 finish _ _ _ _ _ _ _ _ _ _ | case9 finish _ _ _ _ _ _ _ _ _ _ _ _ =>
    dsimp only [finish]
    split <;> exact ⟨rfl, fun _ => RCur.noConfusion⟩
  case case4 x =>
    -- no envelopes, no declared length: reading the whole body fails
    exact ⟨(copyAllLimited_spec x (by have := st.src.fuel_ge; omega)).1, nofun⟩
  case case8 x _ => exact ⟨(x ▸ reportError_no_panic w _ _ :), nofun⟩   -- the client's envelope is rejected
  case case10 hd _ _ hno x =>
    -- no error and not five envelope bytes: cannot happen
    obtain ⟨f, a, b, c, d, h5⟩ := readExactly_five x
    exact absurd h5 (hno f a b c d)

theorem erPhase1_no_panic (w : World) (st : St) (r : ER) (n : Nat) :
    ∀ res, erPhase1 w st r n = .inl res → res.2.2.2.2 = false := by
  fun_cases erPhase1 w st r n
  -- falls through (`.inr`): no message in progress; the message is exhausted (`io.EOF`); no bytes and no error
  case case1 | case4 | case6 => rintro _ ⟨⟩
  case case2 hc x => cases (x ▸ erCurRead_no_panic w st r.current n hc :)   -- the current reader panicked
  case case3 | case5 => rintro _ ⟨⟩; rfl       -- returns now: bytes are handed out; an error that is not `io.EOF`

theorem erPhase2_no_panic (w : World) (st : St) (r : ER) (n : Nat) : (erPhase2 w st r n).2.2.2.2 = false := by
  have h1 := erPrepareNext_safe w st r
  fun_cases erPhase2 w st r n
  case case1 x => rw [x] at h1; cases h1.1       -- `erPrepareNext` panicked
  case case4 r1 _ _ _ _ _ _ _ _ _ _ _ x2 _ x =>
    -- the envelope and a first part of the message: a read of the current reader, which `erPrepareNext` has set
    rw [x] at h1
    exact (x2 ▸ erCurRead_no_panic w _ _ _ (h1.2 rfl) :)
  all_goals rfl       -- an error of `erPrepareNext`; part of the envelope; exactly the envelope

/-- **`envelopingReader.Read` never panics**: any `Read` size, any body in any pieces, any reader state. -/
theorem erRead_no_panic (w : World) (st : St) (r : ER) (n : Nat) : (erRead w st r n).2.2.2.2 = false := by
  fun_cases erRead w st r n
  case case1 | case2 => rfl
  case case3 x => exact erPhase1_no_panic w st r n _ x
  case case4 => exact erPhase2_no_panic w _ _ n

/-- What is left for the transforming reader to do: the client's body, plus one for the message a
    client without envelopes has sent even when its body is empty. -/
def muR (st : St) (r : TR) : Nat := st.src.data.length + (if r.consumedFirst then 0 else 1)

theorem trNext_ok (pl : HandlePlan) (st : St) (cf : Bool) (res : Except Err (Bytes × Bool)) (x : Bytes × Bool)
    (h : trNext pl st cf res = .ok x) : res = .ok x ∨ cf = false := by
  revert h
  fun_cases trNext pl st cf res
  case case1 hc => exact fun _ => .inr (by cases cf <;> simp_all)
  case case2 => nofun
  case case3 => exact .inl

/-- **`transformingReader.Read` never panics and its loop always ends**: every round that goes on to
    the next message has taken something from the client's body (or used up the one empty message),
    so the fuel `Read` gives the loop is never exhausted - for any `Read` size, body and pieces. -/
theorem trRead_no_panic (w : World) (pl : HandlePlan) : ∀ (fuel : Nat) (st : St) (r : TR) (n : Nat),
    muR st r < fuel → (trRead w pl fuel st r n).2.2.2.2 = false := by
  intro fuel st r n hmu
  fun_induction trRead w pl fuel st r n
  case case1 => omega       -- out of fuel: `hmu` says not
  case case2 | case3 | case4 | case6 => rfl       -- latched; served from what is in hand (twice); the body has ended or is cut
  case case5 x => cases (x ▸ readRequestMessage_no_panic w _ true :)       -- the message reader panicked
  case case7 x => exact (x ▸ reportError_no_panic w _ _ :)       -- the message cannot be prepared: reported
  case case8 st r _ _ _ _ _ r1 b r2 xb _ res s1 _ x _ _ _ hnext _ _ _ _ ih =>
    -- the next message is read and prepared: the `Read` goes on from it, with one less fuel
    refine ih ?_
    obtain ⟨hle, hlt⟩ := readRequestMessage_consumes w st true
    rw [x] at hle hlt
    dsimp only at hle hlt
    -- taking bytes from the buffer leaves `consumedFirst` alone
    have hcf : r2.consumedFirst = r.consumedFirst := by
      split at xb
      · split at xb <;> cases xb <;> rfl
      · cases xb; rfl
    unfold muR at hmu
    -- the recursive call has `consumedFirst = true`: its `muR` is without the `+ 1`
    show s1.src.data.length + 0 < _
    rcases trNext_ok pl s1 _ res _ hnext with hok | h
    · have := hlt _ hok
      split at hmu <;> omega
    · rw [← hcf, h] at hmu
      simp only [Bool.false_eq_true, if_false] at hmu
      omega

theorem Flight.read_panic (w : World) (pl : HandlePlan) (f : Flight) (n : Nat) : (f.read w pl n).2.2.panic = f.panic := by
  fun_cases Flight.read w pl f n
  case case1 | case2 => rfl
  case case3 r _ _ _ _ _ _ x =>
    cases (x ▸ erRead_no_panic w f.st r n :)
    exact Bool.or_false _
  case case4 r _ _ _ _ _ _ x =>
    cases (x ▸ trRead_no_panic w pl _ f.st r n (by have := f.st.src.fuel_ge; unfold muR; split <;> omega) :)
    exact Bool.or_false _

/-- **No handler script makes the transcoder panic**: after any sequence of reads, header changes,
    `WriteHeader`, `Write`, `Flush` and `Close` calls the flight has not panicked and is `Ready`. -/
theorem runScript_no_panic (w : World) (tb : Tables) (pl : HandlePlan) (script : List BOp) (total0 : Nat) (f : Flight)
    (h : Ready f.st) (hp : f.panic = false) :
    Ready (runScript w tb pl script total0 f).1.st ∧ (runScript w tb pl script total0 f).1.panic = false :=
  runScript_inv (P := fun f => Ready f.st ∧ f.panic = false)
    (fun f n h => ⟨RdReach.inv (fun n h => h.of_neutral n) (reportError_ready w) (Flight.read_reach w pl f n) h.1,
      (Flight.read_panic w pl f n).trans h.2⟩)
    (fun _ _ h => ⟨h.1.of_neutral (St.setHdr_neutral _ _), h.2⟩)
    (fun f c h => ⟨(rwWriteHeader_safe w tb f.st c h.1).2, by simp only [h.2, (rwWriteHeader_safe w tb f.st c h.1).1, Bool.or_false]⟩)
    (fun f d h => ⟨(rwWrite_safe w tb f.st d h.1).2, by simp only [h.2, (rwWrite_safe w tb f.st d h.1).1, Bool.or_false]⟩)
    (fun _ h => h) script total0 f ⟨h, hp⟩

theorem opReportError_no_panic (o : Op) (k : Sink) (err : Err) : (opReportError o k err).2 = false := by
  fun_cases opReportError o k err
  case case1 code h => have := httpStatusFromRPC_isSome code; rw [h] at this; cases this
  case case2 x => cases (x ▸ addResponseHeaders_status_isSome o.cform _ k :)
  case case3 => rfl

theorem transcodePre_error_no_panic (w : World) (o : Op) (pl : HandlePlan) (st0 : St) (x : Sink × Bool)
    (h : transcodePre w o pl st0 = .error x) : x.2 = false := by
  revert h
  fun_cases transcodePre w o pl st0
  case case1 | case2 => rintro ⟨⟩; exact opReportError_no_panic o _ _
  case case3 | case4 => nofun

theorem transcodeRun_no_panic (w : World) (sc : Scenario) (o : Op) (pl : HandlePlan) (st : St)
    (first : Option (Bytes × Bool)) (hrw : st.rw = {}) (hs : st.sink = {}) :
    (transcodeRun w sc o pl st first).panic = false :=
  finish_never_panics w sc.tables pl sc.script sc.src.left st _ _ hrw hs
    (runScript_no_panic w sc.tables pl sc.script sc.src.left _ (start_ready st _ hrw hs) rfl).2

theorem serveTranscode_no_panic (w : World) (sc : Scenario) (o : Op) : (serveTranscode w sc o).panic = false := by
  fun_cases serveTranscode w sc o
  case case1 x => exact transcodePre_error_no_panic w o _ _ _ x
  case case2 x =>
    obtain ⟨hrw, hs⟩ := transcodePre_fresh w o _ _ _ _ x
    exact transcodeRun_no_panic w sc o _ _ _ hrw hs

/-- **C11: `ServeHTTP` never panics.**  For every configuration, request, client body (any bytes, in any
    pieces, ending in any way) and every backend handler script (any reads, header changes,
    `WriteHeader`, `Write` of any bytes, `Flush`, `Close`), the model of `Transcoder.ServeHTTP` returns
    without a panic: no index or slice out of range, no missing sink, reader or decoder, no loop that
    runs out of steps. -/
theorem serve_never_panics (w : World) (sc : Scenario) : (serve w sc).panic = false := by
  fun_cases serve w sc
  case case6 => exact serveTranscode_no_panic w sc _
  all_goals rfl

end Vanguard.C11
