import Vanguard.Model.Pool
import Vanguard.Lemmas.List
/-!
  # C14 — concurrent RPCs are isolated from one another

  What concurrent RPCs on one `Transcoder` share is the pools of `Model/Pool`.  The theorems below
  are about *every* interleaving of *any* number of holders (RPCs, or the request side and the
  response side of one RPC): a trace is an arbitrary list of `get`/`put`/`drop` events tagged
  with their holder.

  * If every holder releases only buffers it holds itself (the obligation on vanguard's code) and
    the pool only hands out what was put into it or new objects (what `sync.Pool` guarantees),
    then no buffer is ever held by two holders, or held while in the pool (`exclusive`,
    `disciplined_never_shared`).
  * Together with `C15.pooled_buffer_like_fresh` / `pooledCompress_pure` /
    `pooledDecompress_pure` (a pooled object behaves like a new one whatever its previous
    holder did) an RPC computes the same result as when it runs alone.

  Modelled, not verified: that the Go code meets the obligation.  This is what the correspondence
  checks on real executions: the `verif` pool hook records every Get/Put/Wrap, reports a release
  of a buffer that is not held, a Get of a held buffer and a write into a pooled buffer, and
  poisons released buffers so that a use after release changes the outcome; the `conc` stream runs
  RPCs concurrently (including one RPC's two sides on different goroutines) and compares each with
  the model's solo result.  The Go memory model (data races on `responseWriter` fields) is outside
  the model; the `conc` stream is built with the race detector in the thorough tier.
-/
namespace Vanguard.C14

def Inv (o : Own) : Prop :=
  o.heldIds.Nodup ∧ o.pooled.Nodup ∧ ∀ id, id ∈ o.heldIds → id ∉ o.pooled

theorem inv_init : Inv {} := by
  refine ⟨List.nodup_nil, List.nodup_nil, ?_⟩
  intro id h; simp [Own.heldIds] at h

theorem inv_iff (o : Own) : Inv o ↔ (o.heldIds ++ o.pooled).Nodup := by
  simp only [Inv, List.nodup_append, ne_eq]
  exact and_congr_right fun _ => and_congr_right fun _ =>
    ⟨fun h a ha b hb e => h a ha (e ▸ hb), fun h a ha hb => h a ha a hb rfl⟩

theorem step_inv (o o' : Own) (e : OwnEv) (hi : Inv o) (hs : o.step e = some o') : Inv o' := by
  rw [inv_iff] at hi ⊢
  revert hs
  -- the paths that return `none` go at once
  fun_cases Own.step o e <;> intro hs <;> cases hs
  case case2 h id hnh hpo =>
    -- `get` of a recycled buffer: from `pooled` to `held`
    have := (List.perm_cons_erase (List.contains_iff_mem.mp hpo)).append_left o.heldIds
    exact (this.trans List.perm_middle).nodup_iff.mp hi
  case case5 h id _ hnh _ hnp =>
    -- `get` of a new buffer: it was in neither
    simp only [List.contains_eq_mem, decide_eq_true_eq] at hnh hnp
    exact List.nodup_cons.mpr ⟨fun hm => (List.mem_append.mp hm).elim hnh hnp, hi⟩
  case case6 h id hc =>
    -- `put`: from `held` to `pooled`
    have := ((List.perm_cons_erase (List.contains_iff_mem.mp hc)).map Prod.snd).symm.append_right o.pooled
    exact (List.perm_middle.trans this).nodup_iff.mpr hi
  case case8 h id hc =>
    -- `drop`: out of `held`
    exact hi.sublist ((List.erase_sublist.map Prod.snd).append_right _)

/-- **In every state that satisfies the invariant a buffer has at most one holder.** -/
theorem exclusive (o : Own) (hi : Inv o) (h1 h2 id : Nat)
    (m1 : (h1, id) ∈ o.held) (m2 : (h2, id) ∈ o.held) : h1 = h2 :=
  congrArg Prod.fst (List.eq_of_nodup_map hi.1 m1 m2 rfl)

/-- ... and a buffer that is held is not also available from the pool. -/
theorem held_not_pooled (o : Own) (hi : Inv o) (h id : Nat) (m : (h, id) ∈ o.held) : id ∉ o.pooled :=
  hi.2.2 id (List.mem_map.mpr ⟨(h, id), m, rfl⟩)

/-- When the code releases only what the releasing holder holds and the pool is honest, an event
    can never hand a buffer to a second holder. -/
theorem step_isSome (o : Own) (e : OwnEv) (hi : Inv o)
    (h1 : e.releasesHeld o = true) (h2 : e.poolHonest o = true) : (o.step e).isSome = true := by
  cases e with
  | get h id recycled =>
    cases recycled with
    | true =>
      simp only [OwnEv.poolHonest] at h2
      have hnp : id ∈ o.pooled := by simpa using h2
      have hnh : id ∉ o.heldIds := fun hm => hi.2.2 id hm hnp
      simp [Own.step, hnh, hnp]
    | false =>
      simp only [OwnEv.poolHonest, Bool.and_eq_true, Bool.not_eq_true'] at h2
      have a : id ∉ o.pooled := by simpa using h2.1
      have b : id ∉ o.heldIds := by simpa using h2.2
      simp [Own.step, a, b]
  | put h id | drop h id =>
    simp only [OwnEv.releasesHeld] at h1
    have a : (h, id) ∈ o.held := by simpa using h1
    simp [Own.step, a]

/-- **Every interleaving of any number of holders that meets the obligations runs to the end with
    the invariant intact**: at no point is a buffer held twice or held while pooled. -/
theorem disciplined_never_shared (tr : List OwnEv) : ∀ (o : Own), Inv o → o.disciplined tr = true →
    ∃ o', o.run tr = some o' ∧ Inv o' := by
  intro o hi hd
  fun_induction Own.run o tr with
  | case1 o => exact ⟨o, rfl, hi⟩
  | case2 o e rest hst =>
    -- an event that meets the obligations is never refused
    simp only [Own.disciplined, Bool.and_eq_true] at hd
    have := step_isSome o e hi hd.1.1 hd.1.2
    rw [hst] at this; cases this
  | case3 o e rest o1 hst ih =>
    simp only [Own.disciplined, hst, Bool.and_eq_true] at hd
    exact ih (step_inv o o1 e hi hst) hd.2

theorem run_inv (tr : List OwnEv) (o o' : Own) (hi : Inv o) (h : o.run tr = some o') : Inv o' := by
  fun_induction Own.run o tr with
  | case1 o => cases h; exact hi
  | case2 o e rest hst => cases h
  | case3 o e rest o1 hst ih => exact ih (step_inv o o1 e hi hst) h

theorem preexistingFrom_nodup (tr : List OwnEv) (seen pre : List Nat) (hn : pre.Nodup) (hs : ∀ x ∈ pre, x ∈ seen) :
    (preexistingFrom seen pre tr).Nodup := by
  fun_induction preexistingFrom seen pre tr with
  | case1 => exact hn
  | case2 seen pre e rest _ ih => exact ih hn hs
  | case3 seen pre rest h id hc ih =>     -- first met as recycled: it joins both lists
    have hns : id ∉ seen := by simpa [OwnEv.id] using hc
    refine ih (List.nodup_cons.mpr ⟨fun hm => hns (hs id hm), hn⟩) fun x hx => ?_
    rcases List.mem_cons.mp hx with rfl | hx
    · exact List.mem_cons_self
    · exact List.mem_cons_of_mem _ (hs x hx)
  | case4 seen pre e rest _ _ ih => exact ih hn fun x hx => List.mem_cons_of_mem _ (hs x hx)

theorem inv_start (tr : List OwnEv) : Inv { held := [], pooled := preexisting tr } := by
  refine ⟨List.nodup_nil, preexistingFrom_nodup tr [] [] List.nodup_nil (by simp), ?_⟩
  intro id h; simp [Own.heldIds] at h

/-- The trace checker accepts a recorded trace only if, starting from a pool that holds the
    buffers recycled from before the recording, no buffer was ever shared. -/
theorem checkTrace_sound (tr : List OwnEv) (h : checkTrace tr = true) :
    ∃ o', ({ held := [], pooled := preexisting tr } : Own).run tr = some o' ∧ Inv o' := by
  unfold checkTrace at h
  cases hr : ({ held := [], pooled := preexisting tr } : Own).run tr with
  | none => rw [hr] at h; cases h
  | some o' => exact ⟨o', rfl, run_inv tr _ o' (inv_start tr) hr⟩

/-- Non-vacuity: two holders interleaved, a recycled buffer changing hands after a `put`. -/
example : ({} : Own).disciplined
    [.get 1 7 false, .get 2 8 false, .put 1 7, .get 2 7 true, .drop 2 8, .put 2 7] = true := by decide
/-- What the seeded defects look like: a buffer released twice, then obtained by two holders. -/
example : checkTrace [.get 1 7 false, .put 1 7, .put 1 7] = false := by decide
example : checkTrace [.get 1 7 false, .put 1 7, .get 2 7 true, .get 3 7 true] = false := by decide

end Vanguard.C14
