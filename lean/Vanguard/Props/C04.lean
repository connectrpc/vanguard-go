import Vanguard.Model.Codes
import Vanguard.Model.Percent
import Vanguard.Spec.Codes
import Vanguard.Lemmas.UInt8
/-!
  C04 — RPC errors keep their code, message and details across protocols.
-/
namespace Vanguard.C04

/-- The table in the source is the published Connect table. -/
theorem status_table_is_published : statusTable = (List.range 17).map Spec.httpOfCode := by decide

/-- `httpStatusCodeFromRPC` never panics and returns the published status for *every* code
    (codes outside 0..16 are server errors).  `none` models Go's index-out-of-range panic, so
    this is also the "numeric codes outside the defined range never crash" clause. -/
theorem status_from_rpc_spec (code : Nat) : Spec.statusFromRPCOk code (httpStatusFromRPC code) = true := by
  simp only [Spec.statusFromRPCOk, httpStatusFromRPC, httpStatusFromRPCWith, status_table_is_published,
    beq_iff_eq, List.length_map, List.length_range, Bool.false_eq_true, if_false]
  by_cases h : code ≥ 17
  · obtain ⟨k, rfl⟩ : ∃ k, code = k + 17 := ⟨code - 17, by omega⟩
    rw [if_pos h]; rfl
  · rw [if_neg h, List.getElem?_map, List.getElem?_range (by omega)]; rfl

/-- The pinned-tree guard (`>` instead of `>=`) does panic: code 17 is the witness.  Kept so a
    regression to the old guard is recognised by the model-side search immediately. -/
theorem status_from_rpc_strict_guard_panics : httpStatusFromRPCWith statusTable true 17 = none := by decide

/-- `httpStatusCodeToRPC` is the published mapping for every status. -/
theorem status_to_rpc_spec (status : Int) : Spec.statusToRPCOk status (httpStatusToRPC status) = true := by
  unfold Spec.statusToRPCOk Spec.codeOfHTTP
  split
  case h_10 h200 h400 h401 h403 h404 h429 h502 h503 h504 =>
    -- none of the nine statuses: every test of the model fails too
    rw [httpStatusToRPC, if_neg h200, if_neg h400, if_neg h401, if_neg h403, if_neg h404,
      if_neg fun h => h.elim h429 (·.elim h502 (·.elim h503 h504))]
    rfl
  all_goals rfl

/-- Bare HTTP statuses the property names explicitly. -/
example : httpStatusToRPC 401 = 16 ∧ httpStatusToRPC 403 = 7 ∧ httpStatusToRPC 404 = 12 ∧
    httpStatusToRPC 429 = 14 ∧ httpStatusToRPC 502 = 14 ∧ httpStatusToRPC 503 = 14 ∧
    httpStatusToRPC 504 = 14 := by decide

/-- Any message (arbitrary bytes, so in particular all of UTF-8) survives the `grpc-message`
    percent coding unchanged. -/
theorem percent_roundtrip (m : Bytes) : grpcPercentDecode (grpcPercentEncode m) = some m := by
  induction m with
  | nil => rfl
  | cons c rest ih =>
    unfold grpcPercentEncode
    split
    · have h := upperhex_roundtrip c
      simp [grpcPercentDecode, h.1, h.2.1, h.2.2, ih]
    · rename_i hc
      have : c ≠ 0x25 := by
        intro h; subst h; simp [grpcShouldEscape] at hc
      -- the first byte is not `%`: of the decoder's arms only the last applies
      unfold grpcPercentDecode
      split
      case h_1 h => cases h
      case h_2 h | h_3 h | h_4 h => exact absurd (List.cons.inj h).1 this
      case h_5 h => cases h; rw [ih]; rfl

/-- The encoded `grpc-message` is always printable ASCII (a legal HTTP header value). -/
theorem percent_encode_printable (m : Bytes) : Spec.printableAscii (grpcPercentEncode m) = true := by
  induction m with
  | nil => rfl
  | cons c rest ih =>
    unfold grpcPercentEncode
    simp only [Spec.printableAscii] at ih
    split
    · have h := upperhex_roundtrip c
      simp [Spec.printableAscii, ishex_printable h.1, ishex_printable h.2.1, ih]
    · rename_i hc
      simp [Spec.printableAscii, unescaped_printable (by simpa using hc), ih]

/-- Non-vacuity: a message with non-ASCII bytes, `%` and a control character. -/
example : grpcPercentDecode (grpcPercentEncode [0x66, 0xC3, 0xA9, 0x25, 0x0A]) = some [0x66, 0xC3, 0xA9, 0x25, 0x0A] := by
  decide


/-! The ties of these tables to the source as it reads now (`Vanguard.Gen`, regenerated on every run) are in
    `Props/C04e2e.lean` (`source_*_is_model`): this file must not depend on generated facts, because the
    lemma libraries of the response path are built on top of it. -/

end Vanguard.C04
