import Vanguard.Lemmas.Source
import Vanguard.Lemmas.Chunking
import Vanguard.Lemmas.ReadSizes
import Vanguard.Lemmas.ReframeStream
import Vanguard.Lemmas.WriteSplit
import Vanguard.Lemmas.ReframeSplit
import Vanguard.Model.World
/-!
  C08 — Results do not depend on how bytes are split across reads, writes, flushes.

  The request body is modelled as an adversarial list of chunks: every underlying `Read` returns
  bytes of one chunk only, so every segmentation of the same byte stream is a different `Source`.
  Proved here, for *every* chunking: `io.ReadFull`/`io.CopyN` (`readExactly`, the primitive with
  which every envelope prefix and every enveloped message is read) return the same bytes, the same
  error and leave the same bytes unread.
  One level up, also for every chunking: the transcoder's message reader (`readRequestMessage`, enveloped
  clients; `unenveloped_message_chunking_independent` for Connect unary and REST bodies read under the
  size limit) cuts the same message, compressed flag or error out of the same bytes and leaves the same
  bytes (`enveloped_message_chunking_independent`), hence the whole **sequence of request messages
  and its final condition** do not depend on the segmentation (`message_sequence_chunking_independent`).
  **Handler read-buffer sizes** (re-encoding reader, `transformingReader.Read`): two handlers that read the
  same request with any buffer sizes `≥ 1` - down to a single byte - until the body ends are given the
  same bytes and the same final error (`read_buffer_sizes_do_not_matter`).  Behind it: the stream of
  bytes a request state will hand out is defined without reference to read sizes (`Stream`), is
  unique (`Stream.det`), and every `Read(n)` hands out a prefix of it and leaves the rest (`trRead_step`).
  **How the backend splits its response across `Write` calls** (re-encoding writer, the loop of
  `transformingWriter.Write`): processing `a ++ b` in one call and processing `a`, then - unless that
  call failed - `b` in a second call leave the client's connection (status, headers, body items, flush
  positions, end) and the panic flag exactly the same, for every writer state, every split point
  (inside an envelope, inside a message, between messages, empty pieces) and every backend output,
  malformed or not (`write_split_does_not_matter`; the key steps are `twRound_append_short` and `twRound_append_long`, `Lemmas/WriteSplit.lean`).
  Partial: the corresponding statements for the re-framing reader (`erRead`) and the re-framing writer (`erRead`, `trRead`,
  `ewLoop`, `twLoop`) is not yet a theorem; it is checked on the implementation *and* on the model by
  the `chunk` stream, which runs every scenario under its coarsest segmentation and under a random
  one (request pieces, read-buffer sizes down to 1, write pieces, flushes, empty writes) and demands
  identical observations.
-/
namespace Vanguard.C08

/-- Exactly the next `k` bytes, whatever the chunking, when at least `k` bytes are left. -/
theorem read_full_exact (fuel : Nat) (src : Source) (k : Nat) (acc : Bytes) (hf : k < fuel)
    (hk : k ≤ src.data.length) :
    ∃ src', readExactly fuel src k acc = (acc ++ src.data.take k, none, src') ∧
      src'.data = src.data.drop k ∧ src'.ending = src.ending :=
  let ⟨src', h, hd⟩ := readExactly_spec fuel src k acc (.inl hf)
  ⟨src', by rw [h, if_pos hk], hd⟩

/-- A body that ends early yields all remaining bytes and an error that depends only on how the
    body ends and on whether anything was read — whatever the chunking. -/
theorem read_full_short (fuel : Nat) (src : Source) (k : Nat) (acc : Bytes)
    (hf : src.data.length + 1 < fuel) (hk : src.data.length < k) :
    ∃ src', readExactly fuel src k acc = (acc ++ src.data, some (shortErr src.ending (acc ++ src.data)), src') ∧
      src'.data = [] :=
  let ⟨src', h, hd, _⟩ := readExactly_spec fuel src k acc (.inr hf)
  ⟨src', by rw [h, if_neg (Nat.not_le.mpr hk), List.take_of_length_le (Nat.le_of_lt hk)],
    by rw [hd, List.drop_of_length_le (Nat.le_of_lt hk)]⟩

/-- **Corollary: segmentation independence of `io.ReadFull`.**  Two request bodies with the same bytes
    and the same way of ending, delivered in arbitrarily different pieces, give the same bytes and the
    same error, and leave the same bytes unread. -/
theorem readExactly_chunking_independent (s1 s2 : Source) (k : Nat) (acc : Bytes)
    (hd : s1.data = s2.data) (he : s1.ending = s2.ending) :
    let r1 := readExactly (s1.data.length + k + 2) s1 k acc
    let r2 := readExactly (s2.data.length + k + 2) s2 k acc
    r1.1 = r2.1 ∧ r1.2.1 = r2.2.1 ∧ r1.2.2.data = r2.2.2.data := by
  obtain ⟨a, ha, ha2, _⟩ := readExactly_spec (s1.data.length + k + 2) s1 k acc (.inl (by omega))
  obtain ⟨b, hb, hb2, _⟩ := readExactly_spec (s2.data.length + k + 2) s2 k acc (.inl (by omega))
  show (readExactly (s1.data.length + k + 2) s1 k acc).1 = (readExactly (s2.data.length + k + 2) s2 k acc).1 ∧ _
  rw [ha, hb]; simp only [ha2, hb2, hd, he, and_self]

/-- Non-vacuity: the same five bytes in one piece and byte by byte. -/
example :
    (readExactly 20 { chunks := [[1, 2, 3, 4, 5]], ending := .eof } 3 []).1 =
    (readExactly 20 { chunks := [[1], [2], [], [3], [4], [5]], ending := .eof } 3 []).1 := by decide

/-- **One enveloped message, any segmentation** (same bytes, same ending; everything else equal). -/
theorem enveloped_message_chunking_independent (w : World) (a b : St) (h : StEq a b) (ce : Enveloper)
    (hce : a.op.clientEnveloper = some ce) :
    (readRequestMessage w a false).1 = (readRequestMessage w b false).1 ∧
    (resultOk (readRequestMessage w a false).1 →
      StEq (readRequestMessage w a false).2.1 (readRequestMessage w b false).2.1 ∧
      (readRequestMessage w a false).2.1.op = a.op) := by
  obtain ⟨sa, da, ea, ha⟩ := readRequestMessage_enveloped w a false ce hce
  obtain ⟨sb, db, eb, hb⟩ := readRequestMessage_enveloped w b false ce (h.op ▸ hce)
  simp only [← h.op, ← h.src.1, ← h.src.2] at db eb hb
  rw [ha, hb]
  refine ⟨rfl, fun ⟨v, hv⟩ => ?_⟩
  dsimp only at hv ⊢
  rw [hv]
  exact ⟨⟨rfl, h.rw, h.sink, h.scratch, da.trans db.symm, ea.trans eb.symm⟩, rfl⟩

theorem message_sequence_chunking_independent (w : World) (ce : Enveloper) (n : Nat) (a b : St) (h : StEq a b)
    (hce : a.op.clientEnveloper = some ce) : readMessages w n a = readMessages w n b := by
  rw [readMessages_eq w ce n a hce, readMessages_eq w ce n b (h.op ▸ hce), h.op, h.src.1, h.src.2]

/-- **The one message of a client without envelopes** (Connect unary, REST): the whole body or the
    same error (too long for the limit, cut, empty), whatever the segmentation. -/
theorem unenveloped_message_chunking_independent (w : World) (a b : St) (h : StEq a b)
    (hce : a.op.clientEnveloper = none) :
    (readRequestMessage w a false).1 = (readRequestMessage w b false).1 := by
  rw [readRequestMessage_unenveloped w a false hce, readRequestMessage_unenveloped w b false (h.op ▸ hce), h.op, h.src.1, h.src.2]

/-- Reading a whole body under a size limit: everything, or the size error, or the cut - decided
    by the bytes and the way the body ends alone. -/
theorem copy_all_limited_spec (w : World) (limit fuel : Nat) (st : St) (hf : st.src.data.length + 1 < fuel) :
    (copyAllLimited w false limit fuel st 0 []).2.1 = copySpecErr limit st.src.data.length st.src.ending ∧
    (st.src.data.length ≤ limit → (copyAllLimited w false limit fuel st 0 []).1 = st.src.data) := by
  obtain ⟨-, hcat, he, hnil⟩ := copyAllLimited_spec (rfl : copyAllLimited w false limit fuel st 0 [] = _) (Nat.lt_of_succ_lt hf)
  rw [Nat.zero_add] at he hnil
  exact ⟨he, fun h => by rw [hnil h, List.append_nil] at hcat; exact hcat⟩

/-- Non-vacuity of `StEq`: the same seven bytes in one piece and in five pieces (one of them empty). -/
example (o : Op) : StEq { op := o, src := { chunks := [[0, 0, 0, 0, 2, 7, 8]], ending := .eof }, sink := {} }
                        { op := o, src := { chunks := [[0], [0, 0], [], [0, 2, 7], [8]], ending := .eof }, sink := {} } :=
  ⟨rfl, rfl, rfl, rfl, ⟨rfl, rfl⟩⟩

/-- **The request bytes a backend handler reads do not depend on its read-buffer sizes** (re-encoding
    path; `Reads` = the handler calls `Read` with the buffer sizes of the list, each at least 1, until a
    `Read` reports an error, `io.EOF` included). -/
theorem read_buffer_sizes_do_not_matter (w : World) (pl : HandlePlan) (st : St) (r : TR) (ns1 ns2 : List Nat)
    (o1 o2 : Bytes) (e1 e2 : Err) (hwf : r.WF) (herr : r.err = none)
    (h1 : Reads w pl st r ns1 o1 e1) (h2 : Reads w pl st r ns2 o2 e2) : o1 = o2 ∧ e1 = e2 :=
  (h1.stream hwf herr).det (h2.stream hwf herr)

/-- Every single `Read(n)`, `n ≥ 1`, hands out a prefix of the stream and leaves the rest. -/
theorem every_read_is_a_stream_step (w : World) (pl : HandlePlan) (F : Nat) (st : St) (r : TR) (n : Nat)
    (hn : 1 ≤ n) (hwf : r.WF) (herr : r.err = none) : StepOk w pl st r (trRead w pl F st r n) :=
  trRead_step w pl F st r n hn hwf herr

/-- **Splitting the backend's output across two `Write` calls changes nothing the client sees**
    (re-encoding writer; `thenLoop` = the second call, skipped when the first one failed; `Visible` = the
    client's connection and the panic flag; `TwInv` is the writer invariant of C11, established by `reset`
    and kept by the loop). -/
theorem write_split_does_not_matter (w : World) (tb : Tables) (a b : Bytes) (F G : Nat) (st : St) (t : TW)
    (hinv : C11.TwInv t) (hbuf : t.err = true ∨ t.buffer.isSome = true)
    (hF : C11.muT t (a ++ b) < F) (hG : 2 * b.length + 2 ≤ G) :
    Visible (twLoop w tb F st t (a ++ b)) = Visible (thenLoop w tb G b (twLoop w tb F st t a)) :=
  twLoop_split w tb b G hG F st t a hinv hF

/-- Non-vacuity (kernel-evaluated): a gRPC-Web client (codec `raw`) in front of a gRPC backend (codec
    `hexa`), body = one frame `00 00 00 00 02 | 07 08` in two pieces.  A fresh reader is well-formed; a
    `Read(100)` returns the re-encoded message with its envelope, a `Read(1)` returns its first byte. -/
def dConf : MethodConf := { path := s "/p.S/M", streamType := .unary, noSideEffects := false, protocols := [.grpc], codecs := [hexaName], compressors := [], maxMsg := 100, maxGetURL := 100 }
def dOp : Op := { conf := dConf, cform := .grpcWeb, sform := .grpc, reqMeta := {}, ccodec := rawName, scodec := hexaName, cReqComp := none, sReqComp := none, headers := [], contentLen := -1, query := [], reqMethod := sPOST }
def dSt : St := { op := dOp, src := { chunks := [[0, 0, 0, 0, 2, 7], [8]], ending := .eof }, sink := {} }
example : ({} : TR).WF ∧ ({} : TR).err = none := ⟨⟨by decide, fun h => by simp at h⟩, rfl⟩
example : (trRead fakeWorld (dOp.plan fakeWorld) 30 dSt {} 100).1 = [0, 0, 0, 0, 4, 48, 55, 48, 56] := by decide +kernel
example : (trRead fakeWorld (dOp.plan fakeWorld) 30 dSt {} 1).1 = [0] := by decide +kernel

/-- **On the re-framing path, too, neither the read-buffer sizes nor the segmentation of the body
    matter**: two handlers reading two bodies with the same bytes and the same ending - cut into pieces in
    any two ways - with any two sequences of buffer sizes are given the same bytes and see the same final
    error (client and backend both with envelopes; the payload is streamed through, so single `Read`
    results do differ - their concatenation does not). -/
theorem reframing_read_sizes_and_chunking_do_not_matter (w : World) (ce se : Enveloper) (st1 st2 : St) (r : ER)
    (ns1 ns2 : List Nat) (o1 o2 : Bytes) (e1 e2 : Err)
    (hop : st2.op = st1.op) (hdata : st2.src.data = st1.src.data) (hend : st2.src.ending = st1.src.ending)
    (hce : st1.op.clientEnveloper = some ce) (hse : st1.op.serverEnveloper = some se) (hwf : r.WF) (herr : r.err = none)
    (h1 : EReads w st1 r ns1 o1 e1) (h2 : EReads w st2 r ns2 o2 e2) : o1 = o2 ∧ e1 = e2 := by
  have s1 := h1.spec ce se hce hse hwf herr
  have s2 := h2.spec ce se (by rw [hop]; exact hce) (by rw [hop]; exact hse) hwf herr
  have : erSpec ce se st2 r = erSpec ce se st1 r := by unfold erSpec; rw [hdata, hend]
  rw [this, s1] at s2
  simp only [Prod.mk.injEq] at s2
  exact s2

/-- Every single `Read(n)`, `n ≥ 1`, of the re-framing reader hands out a prefix of the specified stream
    (`erSpec`: a function of the client's bytes and the reader state) and leaves the rest. -/
theorem every_reframing_read_is_a_stream_step (w : World) (ce se : Enveloper) (st : St) (r : ER) (n : Nat) (hn : 1 ≤ n)
    (hce : st.op.clientEnveloper = some ce) (hse : st.op.serverEnveloper = some se) (hwf : r.WF) (herr : r.err = none) :
    EStepOk ce se st (erSpec ce se st r) (erRead w st r n) :=
  erRead_step w ce se st r n hn hce hse hwf herr

/-- **Any number of `Write` pieces, any backend output** (re-encoding path): writing `d ++ d₂ ++ … ++ dₙ` with one
    call or with `n` calls (`thenLoops`: each later call runs only when none before it failed, with the fuel
    `Write` gives its loop) leaves the client's connection - status, headers, body items, flush positions, end -
    and the panic flag exactly the same; the output may be malformed, the pieces empty, the cuts anywhere
    (`TwBuf`: the writer is latched or has its buffer, which `Write` establishes before the loop). -/
theorem write_pieces_do_not_matter (w : World) (tb : Tables) (ds : List Bytes) (d : Bytes) (F : Nat) (st : St) (t : TW)
    (hinv : C11.TwInv t) (hbuf : TwBuf t) (hF : C11.muT t (d ++ ds.flatten) < F) :
    Visible (twLoop w tb F st t (d ++ ds.flatten)) = Visible (thenLoops w tb (twLoop w tb (2 * d.length + 4) st t d) ds) := by
  clear hbuf
  induction ds generalizing d F st t with
  | nil =>
    rw [List.flatten_nil, List.append_nil] at hF ⊢
    rw [twLoop_any_fuel w tb st t d hinv hF (C11.muT_lt t d)]
    rfl
  | cons d2 ds ih =>
    rw [List.flatten_cons] at hF ⊢
    have hmud : C11.muT t d < F := by simp only [C11.muT, List.length_append] at hF ⊢; omega
    rw [twLoop_split w tb (d2 ++ ds.flatten) (2 * (d2 ++ ds.flatten).length + 4) (by omega) F st t d hinv hF,
      twLoop_any_fuel w tb st t d hinv hmud (C11.muT_lt t d), thenLoops]
    have hinv1 := C11.twLoop_keeps_inv w tb (2 * d.length + 4) st t d hinv
    generalize twLoop w tb (2 * d.length + 4) st t d = r1 at hinv1 ⊢
    unfold thenLoop
    by_cases hfail : (r1.2.2.1 || r1.2.2.2) = true
    · rw [if_pos hfail, if_pos hfail, thenLoops_failed w tb r1 hfail]
    · rw [if_neg hfail, if_neg hfail]
      exact ih d2 _ r1.1 r1.2.1 (hinv1 (Bool.eq_false_iff.mpr fun h => hfail (by rw [h, Bool.or_true]))) (C11.muT_lt _ _)

/-- **On the re-framing path the split of a well-formed response across `Write` calls does not matter**: any
    two ways of cutting the same sequence of legal backend frames into pieces (inside envelopes, inside
    payloads, between messages, with empty pieces) succeed and put the same bytes on the client's connection. -/
theorem reframing_write_split_does_not_matter (w : World) (tb : Tables) (se cc : Enveloper) (st : St)
    (fs : List Frame) (p1 p2 : List Bytes)
    (hb : st.rw.buf = none) (hse : st.op.serverEnveloper = some se) (hcc : st.op.clientEnveloper = some cc)
    (hok : ∀ x ∈ fs, x.ok se st.op.conf.maxMsg) (h1 : p1.flatten = framesBytes fs) (h2 : p2.flatten = framesBytes fs) :
    ∃ s1 e1 s2 e2,
      ewWrites w tb st { initialized := true, writingEnvelope := true, remaining := 5 } p1 = (s1, e1, false, false) ∧
      ewWrites w tb st { initialized := true, writingEnvelope := true, remaining := 5 } p2 = (s2, e2, false, false) ∧
      rawBytes s1.sink.items = rawBytes s2.sink.items := by
  obtain ⟨s1, e1, ha, hra⟩ := ewWrites_clean_stream w tb se cc st fs p1 hb hse hcc hok h1
  obtain ⟨s2, e2, hb', hrb⟩ := ewWrites_clean_stream w tb se cc st fs p2 hb hse hcc hok h2
  exact ⟨s1, e1, s2, e2, ha, hb', hra.trans hrb.symm⟩

end Vanguard.C08
